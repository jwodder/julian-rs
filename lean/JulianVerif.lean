import JulianVerif.Props.C01
import JulianVerif.Props.C02
import JulianVerif.Props.C03
import JulianVerif.Props.C04
import JulianVerif.Props.C05
import JulianVerif.Props.C06
import JulianVerif.Props.C07
import JulianVerif.Props.C08
import JulianVerif.Props.C09
import JulianVerif.Props.C10
import JulianVerif.Props.C11
import JulianVerif.Props.C12
import JulianVerif.Props.C13
import JulianVerif.Props.C14
import JulianVerif.Props.C15
import JulianVerif.Props.C16
import JulianVerif.Props.C17
import JulianVerif.Props.C18
import JulianVerif.Props.C19
import JulianVerif.Props.C20
import JulianVerif.Props.Defects
