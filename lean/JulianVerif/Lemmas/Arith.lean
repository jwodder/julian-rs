/-
Lemmas/Arith.lean — the arithmetic kernels of inner.rs against the specification.
-/
import JulianVerif.Model.Inner
import JulianVerif.Spec.Basic
namespace JV
open Spec

theorem tmod_beq (y k : Int) : (y.tmod k == 0) = (y % k == 0) := by
  rw [Bool.eq_iff_iff, beq_iff_eq, beq_iff_eq, ← Int.dvd_iff_tmod_eq_zero, Int.dvd_iff_emod_eq_zero]

theorem tmod_bne (y k : Int) : (y.tmod k != 0) = (y % k != 0) := by
  simp only [bne, tmod_beq]

/-- the code's leap tests (truncating `%`) are the specification's (Euclidean `%`) -/
theorem isJulianLeapYear_eq (y : Int) : isJulianLeapYear y = leap .julian y := by
  simp only [isJulianLeapYear, leap, tmod_beq]

theorem isGregorianLeapYear_eq (y : Int) : isGregorianLeapYear y = leap .gregorian y := by
  simp only [isGregorianLeapYear, leap, tmod_beq, tmod_bne]

theorem leap_julian_iff (y : Int) : leap .julian y = true ↔ y % 4 = 0 := by
  simp [leap]

theorem leap_gregorian_iff (y : Int) :
    leap .gregorian y = true ↔ (y % 4 = 0 ∧ (y % 100 ≠ 0 ∨ y % 400 = 0)) := by
  simp [leap]

/-- `decompose_julian`: closed-form characterisation (every fourth year, starting with
year 0, is leap) -/
theorem decomposeJulian_spec {days ys o : Int} (h : decomposeJulian days = (ys, o)) :
    days = 365 * ys + (ys + 3) / 4 + (o - 1) ∧ 1 ≤ o ∧ o ≤ (if ys % 4 = 0 then 366 else 365) := by
  simp only [decomposeJulian, Prod.mk.injEq] at h
  obtain ⟨rfl, rfl⟩ := h
  generalize hq : days / 1461 = q
  generalize hr : days % 1461 = r
  have hd : days = 1461 * q + r ∧ 0 ≤ r ∧ r < 1461 := by omega
  -- past the leap year of a four-year cycle the code adds one virtual day per completed common
  -- year, so that every year of the cycle has 366 slots and dividing by 366 gives the year
  by_cases c : r > 365
  · rw [if_pos c, Int.tmod_eq_emod_of_nonneg (by omega)]
    grind
  · rw [if_neg c, Int.tmod_eq_emod_of_nonneg (by omega)]
    grind

theorem jdn2julian_spec {j y o : Int} (h : jdn2julian j = (y, o)) :
    j = yearStart .julian y + o - 1 ∧ 1 ≤ o ∧ o ≤ yearLen .julian y := by
  obtain ⟨yy, o', hd⟩ : ∃ yy o', decomposeJulian j = (yy, o') := ⟨_, _, rfl⟩
  obtain ⟨h1, h2, h3⟩ := decomposeJulian_spec hd
  simp only [jdn2julian, hd, Prod.mk.injEq] at h
  obtain ⟨rfl, rfl⟩ := h
  simp only [yearStart, yearLen, leap, beq_iff_eq]
  grind

/-- the number of virtual leap days `jdn2gregorian` inserts before day `qp` of a 400-year cycle -/
theorem tdiv_century (qp : Int) (h0 : 0 ≤ qp) :
    (qp - 366).tdiv 36524 = if qp < 366 then 0 else (qp - 366) / 36524 := by
  split
  · rw [show qp - 366 = -(366 - qp) by omega, Int.neg_tdiv, Int.tdiv_eq_ediv_of_nonneg (by omega)]
    omega
  · exact Int.tdiv_eq_ediv_of_nonneg (by omega)

/-- days before year `ys` of a 400-year cycle that starts with a year divisible by 400 -/
def cycleStart (ys : Int) : Int := 365 * ys + (ys + 3) / 4 - (ys + 99) / 100 + (ys + 399) / 400

/-- one 400-year cycle starting at a year divisible by 400: day `qp` of the cycle is day
`o` of year `ys` of the cycle -/
theorem gregCycle {qp ys o : Int} (h0 : 0 ≤ qp) (h1 : qp < 146097)
    (h : decomposeJulian (qp + (qp - 366).tdiv 36524) = (ys, o)) :
    0 ≤ ys ∧ ys ≤ 399 ∧ qp = cycleStart ys + o - 1 ∧ 1 ≤ o
    ∧ o ≤ (if ys % 4 = 0 ∧ (ys % 100 ≠ 0 ∨ ys % 400 = 0) then 366 else 365) := by
  obtain ⟨e, ho1, ho2⟩ := decomposeJulian_spec h
  rw [tdiv_century qp h0] at e
  simp only [cycleStart]
  split at e
  · grind
  · -- `b` virtual leap days (one per completed century) were inserted before day `qp`
    generalize hq : (qp - 366) / 36524 = b at e
    -- the arithmetic needs the century of `ys` before it can evaluate the quotients by 100 and 400
    have hy : 100 * b + 1 ≤ ys ∧ ys ≤ 100 * b + 100 := by grind
    have q1 : (ys + 99) / 100 = b + 1 := by omega
    have q2 : (ys + 399) / 400 = 1 := by omega
    grind

theorem yearStart_cycle (k ys base : Int) (hb : base % 400 = 0) :
    yearStart .gregorian (k * 400 + ys + base)
      = yearStart .gregorian base + 146097 * k + cycleStart ys := by
  simp only [yearStart, cycleStart]
  grind

theorem leap_cycle (k ys base : Int) (hb : base % 400 = 0) :
    leap .gregorian (k * 400 + ys + base)
      = decide (ys % 4 = 0 ∧ (ys % 100 ≠ 0 ∨ ys % 400 = 0)) := by
  simp only [leap]
  grind

/-- `jdn2gregorian` with the re-basing left open: `off` is January 1 of a year `base`
divisible by 400 -/
theorem jdn2gregorian_rebased (j off base : Int) (hb : base % 400 = 0)
    (hoff : yearStart .gregorian base = off) {ys o : Int}
    (hd : decomposeJulian ((j - off) % 146097 + ((j - off) % 146097 - 366).tdiv 36524) = (ys, o)) :
    j = yearStart .gregorian ((j - off) / 146097 * 400 + ys + base) + o - 1 ∧ 1 ≤ o
      ∧ o ≤ yearLen .gregorian ((j - off) / 146097 * 400 + ys + base) := by
  obtain ⟨_, _, a2, a3, a4⟩ := gregCycle (by omega) (by omega) hd
  simp only [yearStart_cycle _ ys base hb, yearLen, leap_cycle _ ys base hb, hoff, decide_eq_true_eq]
  exact ⟨by omega, a3, a4⟩

theorem jdn2gregorian_spec {j y o : Int} (h : jdn2gregorian j = (y, o)) :
    j = yearStart .gregorian y + o - 1 ∧ 1 ≤ o ∧ o ≤ yearLen .gregorian y := by
  simp only [jdn2gregorian] at h
  split at h <;> (simp only [Prod.mk.injEq] at h; obtain ⟨rfl, rfl⟩ := h)
  · exact jdn2gregorian_rebased j (-32104) (-4800) (by decide) (by decide) rfl
  · exact jdn2gregorian_rebased j 113993 (-4400) (by decide) (by decide) rfl

/-- `julian2jdn` returns the specified day number exactly when it fits in 32 bits: the
guard constants of `compose_julian` are the labels of the first and last 32-bit day -/
theorem julian2jdn_spec (y o : Int) (h1 : 1 ≤ o) (h2 : o ≤ 366) :
    julian2jdn y o = if InI32 (yearStart .julian y + o - 1) then some (yearStart .julian y + o - 1)
                     else none := by
  simp only [julian2jdn, composeJulian, yearStart, inI32, InI32, Bool.and_eq_true, Bool.or_eq_true,
    decide_eq_true_eq, beq_iff_eq]
  grind

theorem gregorian2jdn_spec (y o : Int) (h1 : 1 ≤ o) (h2 : o ≤ 366) :
    gregorian2jdn y o = if InI32 (yearStart .gregorian y + o - 1)
                        then some (yearStart .gregorian y + o - 1) else none := by
  have hq : ((y - 1) / 100 + 48) / 4 = (y - 1) / 400 + 12 := by omega
  simp only [gregorian2jdn, yearStart, InI32, Bool.and_eq_true, Bool.or_eq_true,
    decide_eq_true_eq, beq_iff_eq, hq]
  grind

end JV
