/-
Lemmas/Cmp.lean — inner.rs `cmp_int_range` by cases, and `cmp_ym_range` as `cmp_int_range` on one integer
per (year, month).
-/
import JulianVerif.Model.Inner
import JulianVerif.Lemmas.Months
namespace JV

/-- position of (year, month) as one integer: lexicographic order becomes `<` -/
def ymKey (y : Int) (m : Month) : Int := 12 * y + m.number

theorem ymKey_lt {y y' : Int} {m m' : Month} :
    ymKey y m < ymKey y' m' ↔ (y < y' ∨ (y = y' ∧ m.number < m'.number)) := by
  have := Month.number_bounds m; have := Month.number_bounds m'
  simp only [ymKey]; omega

theorem ymKey_eq {y y' : Int} {m m' : Month} : ymKey y m = ymKey y' m' ↔ (y = y' ∧ m = m') := by
  have := Month.number_bounds m; have := Month.number_bounds m'
  simp only [ymKey]
  constructor
  · intro h
    have hy : y = y' := by omega
    subst hy
    exact ⟨rfl, Month.number_inj m m' (by omega)⟩
  · rintro ⟨rfl, rfl⟩; rfl

theorem ymKey_jan_le {y y' : Int} {m : Month} : ymKey y .january ≤ ymKey y' m ↔ y ≤ y' := by
  have := Month.number_bounds m
  simp only [ymKey, Month.jan_number]; omega

/-! `cmp_int_range` makes at most four comparisons; each outcome follows by deciding them, which is
left to `grind`. -/

theorem cmpIntRange_less {v lo hi : Int} (h : v < lo) : cmpIntRange v lo hi = .less := by
  grind [cmpIntRange]
theorem cmpIntRange_eqLower {v lo hi : Int} (h1 : v = lo) (h2 : v < hi) :
    cmpIntRange v lo hi = .eqLower := by grind [cmpIntRange]
theorem cmpIntRange_eqBoth {v lo hi : Int} (h1 : v = lo) (h2 : v = hi) :
    cmpIntRange v lo hi = .eqBoth := by grind [cmpIntRange]
theorem cmpIntRange_between {v lo hi : Int} (h1 : lo < v) (h2 : v < hi) :
    cmpIntRange v lo hi = .between := by grind [cmpIntRange]
theorem cmpIntRange_eqUpper {v lo hi : Int} (h1 : lo < v) (h2 : v = hi) :
    cmpIntRange v lo hi = .eqUpper := by grind [cmpIntRange]
theorem cmpIntRange_greater {v lo hi : Int} (h1 : lo < v) (h2 : hi < v) :
    cmpIntRange v lo hi = .greater := by grind [cmpIntRange]

theorem cmpIntRange_eqLower_iff (v lo hi : Int) :
    cmpIntRange v lo hi = .eqLower ↔ v = lo ∧ v < hi := by grind [cmpIntRange]

/-- `cmp_ym_range` is `cmp_int_range` on the keys: the (year, month) pairs are compared
lexicographically, which is the order of `ymKey`.  (`grind` walks the two decision trees;
`split` on a tree of this depth costs four orders of magnitude more.) -/
theorem cmpYmRange_eq_key (y : Int) (m : Month) {ly : Int} {lm : Month} {uy : Int} {um : Month}
    (hlu : ymKey ly lm ≤ ymKey uy um) :
    cmpYmRange y m ly lm uy um = cmpIntRange (ymKey y m) (ymKey ly lm) (ymKey uy um) := by
  have bm := Month.number_bounds m; have bl := Month.number_bounds lm
  have bu := Month.number_bounds um
  simp only [cmpIntRange, cmpYmRange, ymKey, Month.lt, Month.beq_eq_decide, Bool.or_eq_true,
    Bool.and_eq_true, decide_eq_true_eq, beq_iff_eq] at hlu ⊢
  -- the year against the lower bound's first, so that each of the three trees is short enough
  rcases Int.lt_trichotomy y ly with h | h | h <;> grind

end JV
