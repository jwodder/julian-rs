/-
Lemmas/Months.lean — the twelve months: prefix sums of a length function over them, and the
specification's month table.
-/
import JulianVerif.Spec.Basic
import JulianVerif.Lemmas.Enums
namespace JV
open Spec

/-- sum of `L` over the months before `m` -/
def prefixSum (L : Month → Int) : Month → Int
  | .january => 0
  | .february => L .january
  | .march => L .january + L .february
  | .april => L .january + L .february + L .march
  | .may => L .january + L .february + L .march + L .april
  | .june => L .january + L .february + L .march + L .april + L .may
  | .july => L .january + L .february + L .march + L .april + L .may + L .june
  | .august => L .january + L .february + L .march + L .april + L .may + L .june + L .july
  | .september => L .january + L .february + L .march + L .april + L .may + L .june + L .july
      + L .august
  | .october => L .january + L .february + L .march + L .april + L .may + L .june + L .july
      + L .august + L .september
  | .november => L .january + L .february + L .march + L .april + L .may + L .june + L .july
      + L .august + L .september + L .october
  | .december => L .january + L .february + L .march + L .april + L .may + L .june + L .july
      + L .august + L .september + L .october + L .november

theorem prefixSum_pred (L : Month → Int) {a b : Month} (h : b.pred = some a) :
    prefixSum L b = prefixSum L a + L a := by
  cases b <;> cases h <;> first | rfl | exact (Int.zero_add _).symm

/-- induction over the months in their order: `b` is the month after `a` -/
theorem Month.induction {motive : Month → Prop} (january : motive .january)
    (step : ∀ a b, b.pred = some a → b.number = a.number + 1 → motive a → motive b) (b : Month) :
    motive b := by
  cases b <;> repeat (first | exact january | refine step _ _ rfl rfl ?_)

theorem prefixSum_congr_before (L g : Month → Int) (m : Month)
    (h : ∀ m', m'.number < m.number → L m' = g m') : prefixSum L m = prefixSum g m := by
  induction m using Month.induction with
  | january => rfl
  | step a b hp hn ih =>
    rw [prefixSum_pred L hp, prefixSum_pred g hp, ih fun m' hm' => h m' (by omega), h a (by omega)]

theorem prefixSum_nonneg (L : Month → Int) (hL : ∀ m, 0 ≤ L m) (m : Month) : 0 ≤ prefixSum L m := by
  induction m using Month.induction with
  | january => exact Int.le_refl 0
  | step a b hp _ ih => rw [prefixSum_pred L hp]; have := hL a; omega

/-- the day ranges of different months do not overlap -/
theorem prefixSum_mono (L : Month → Int) (hL : ∀ m, 0 ≤ L m) (a b : Month) (hab : a.number < b.number) :
    prefixSum L a + L a ≤ prefixSum L b := by
  induction b using Month.induction with
  | january => have := a.number_bounds; have := Month.jan_number; omega
  | step c b hp hn ih =>
    have := hL c
    rw [prefixSum_pred L hp]
    by_cases hc : a.number < c.number
    · have := ih hc; omega
    · obtain rfl := Month.number_inj a c (by omega); omega

theorem monthLen_bounds (lp : Bool) (m : Month) : 28 ≤ monthLen lp m ∧ monthLen lp m ≤ 31 := by
  cases m <;> cases lp <;> decide

theorem monthLen_feb_le (lp : Bool) : monthLen lp .february ≤ 29 := by cases lp <;> decide

theorem prefixSum_monthLen (lp : Bool) (m : Month) : prefixSum (monthLen lp) m = daysBefore lp m := by
  cases m <;> cases lp <;> rfl

theorem daysBefore_december (lp : Bool) :
    daysBefore lp .december + monthLen lp .december = if lp then 366 else 365 := by
  cases lp <;> rfl

theorem daysBefore_mono (lp : Bool) (m m' : Month) (h : m.number < m'.number) :
    daysBefore lp m + monthLen lp m ≤ daysBefore lp m' := by
  rw [← prefixSum_monthLen, ← prefixSum_monthLen]
  exact prefixSum_mono _ (fun x => by have := monthLen_bounds lp x; omega) m m' h

theorem daysBefore_bounds (lp : Bool) (m : Month) :
    0 ≤ daysBefore lp m ∧ daysBefore lp m + monthLen lp m ≤ if lp then 366 else 365 := by
  cases m <;> cases lp <;> decide

end JV
