/-
Lemmas/GenKernels.lean — two translators, one meaning.  The nine inner.rs kernels are translated twice:
by bin/srcgen into Model/CheckedInner.lean (`Chk.*`, what Lemmas/CheckedKernels.lean
proves fault-free and equal to the unbounded model) and, independently, by bin/libgen into
Model/GenLib.lean (`Gen.k*`).  The two programs share no code beyond the token pattern of the lexer;
this file proves, for all arguments, that their outputs are the same functions.
-/
import JulianVerif.Lemmas.GenLib
namespace JV.Gen

theorem kDecomposeJulian_eq (days : Int) : kDecomposeJulian days = Chk.decomposeJulian days := by
  simp only [kDecomposeJulian, Chk.decomposeJulian, bind, pure, Option.bind_some, decide_eq_true_eq]

theorem kComposeJulian_eq (years ordinal : Int) : kComposeJulian years ordinal = Chk.composeJulian years ordinal := by
  simp only [kComposeJulian, Chk.composeJulian, ite_bnot, pure, decide_eq_true_eq]

theorem kJdn2julian_eq (jd : Int) : kJdn2julian jd = Chk.jdn2julian jd := by
  simp only [kJdn2julian, Chk.jdn2julian, kDecomposeJulian_eq]

theorem kJulian2jdn_eq (year ordinal : Int) : kJulian2jdn year ordinal = Chk.julian2jdn year ordinal := by
  simp only [kJulian2jdn, Chk.julian2jdn, kComposeJulian_eq, Chk.i32, pure]
  by_cases h : inI32 (year - -4712) = true <;> simp only [h, Bool.false_eq_true, if_true, if_false]

theorem kJdn2gregorian_eq (jd : Int) : kJdn2gregorian jd = Chk.jdn2gregorian jd := by
  simp only [kJdn2gregorian, Chk.jdn2gregorian, kDecomposeJulian_eq, bind, pure, decide_eq_true_eq]
  -- `if let Some(x) = q.checked_sub(366)`: a `match` on `Chk.i32` there, an `if inI32` here
  by_cases hj : jd < 0 <;> simp only [hj, if_true, if_false] <;>
    refine Option.bind_congr fun a _ => Option.bind_congr fun q _ => Option.bind_congr fun p _ => ?_ <;>
    simp only [Chk.i32] <;>
    by_cases hp : inI32 (p - 366) = true <;>
    simp only [hp, if_true, if_false, Bool.false_eq_true, Option.bind_some]

theorem kGregorian2jdn_eq (year ordinal : Int) : kGregorian2jdn year ordinal = Chk.gregorian2jdn year ordinal := rfl

theorem kCmpIntRange_eq (v l u : Int) : kCmpIntRange v l u = Chk.cmpIntRange v l u := by
  simp only [kCmpIntRange, Chk.cmpIntRange, ite_bnot, pure, decide_eq_true_eq]

theorem kCmpYmRange_eq (a b c : Int × Month) : kCmpYmRange a b c = Chk.cmpYmRange a b c := by
  simp only [kCmpYmRange, Chk.cmpYmRange, ite_bnot, monthEq_eq, monthLt_eq, monthLe_eq, pure, decide_eq_true_eq]

theorem kGapKindForDates_eq (a : Int) (m : Month) (b : Int) (n : Month) :
    kGapKindForDates a m b n = Chk.gapKindForDates a m b n := by
  simp only [kGapKindForDates, Chk.gapKindForDates, monthEq_eq, bind, pure, apply_ite some]

end JV.Gen
