/-
Lemmas/ReformAtJdn.lean — the central theorem.  `at_jdn` of a reforming calendar gives
every day below R its Julian label and every day from R on its Gregorian label, numbered from
the start of its year (`origin`) and of its month (`mstart`).
-/
import JulianVerif.Lemmas.ReformSums
namespace JV
open Spec

namespace Reform
variable (rf : Reform)

theorem ymdo2ordinal_eq (y : Int) (m : Month) (k : Int) :
    rf.cal.ymdo2ordinal y m k = prefixSum (rf.cal.lenOf y) m + k :=
  rf.cal.ymdo2ordinal_eq y m k

theorem ordinal2ymddo_at {j y : Int} {m : Month} {d : Int} {s : IShape}
    (hs : rf.cal.monthIShape y m = some s) (h1 : rf.mstart y m ≤ j)
    (hn : s.nthDay (j - rf.mstart y m + 1) = some d) :
    rf.cal.ordinal2ymddo y (j - rf.origin y + 1) = .ok (m, d, j - rf.mstart y m + 1) :=
  (rf.cal.ordinal2ymddo_ok_iff y (rf.valid_all y) (rf.yearLength_eq_sumAll y)).mpr
    ⟨s, hs, hn, by omega, by rw [rf.prefix_eq, rf.mstart_jan]; omega⟩

/-- a day below R lies in a month up to that of P, which starts where it starts in the Julian
calendar and still has the day -/
theorem julian_month {j y : Int} {m : Month} {d : Int} (hj : j < rf.R) (h : IsDate .julian j y m d) :
    ∃ s, rf.cal.monthIShape y m = some s ∧ rf.mstart y m ≤ j
      ∧ s.nthDay (j - rf.mstart y m + 1) = some d := by
  obtain ⟨hv, rfl⟩ := h
  have hle := (rf.lt_R_iff hv).mp hj
  have hd := hv.1
  rw [jdnOf_day, rf.mstart_julian (by rcases hle with a | ⟨a, _⟩ <;> omega),
    show jdnOf .julian y m 1 + (d - 1) - jdnOf .julian y m 1 + 1 = d by omega]
  suffices ∃ s, rf.cal.monthIShape y m = some s ∧ (d ≤ s.lo ∨ (s.hi = 1 ∧ d ≤ s.lastDay)) by
    obtain ⟨s, hs, h⟩ := this
    exact ⟨s, hs, by omega, s.nthDay_self (rf.valid_all y m (Month.mem_all m) s hs) hd h⟩
  rcases hle with a | ⟨a, a2⟩
  · exact ⟨_, rf.shape_before y m a, Or.inr ⟨rfl, hv.2⟩⟩
  · obtain ⟨rfl, rfl⟩ := ymKey_eq.mp a
    rcases Int.lt_or_eq_of_le rf.ym_le with b | b
    · rw [rf.shape_P b]
      split
      · exact ⟨_, rfl, Or.inr ⟨rfl, hv.2⟩⟩
      · exact ⟨_, rfl, Or.inr ⟨rfl, a2⟩⟩
    · obtain ⟨ey, em⟩ := ymKey_eq.mp b
      have hs := rf.shape_PQ b
      rw [← ey, ← em] at hs
      exact ⟨_, hs, Or.inl (by simp only [IShape.lo]; omega)⟩

/-- the month of the first Gregorian date: its days from `dQ` on follow the `dP` Julian days it
may still have, and it starts that many days before `R` -/
theorem month_Q : ∃ s, rf.cal.monthIShape rf.yQ rf.mQ = some s
    ∧ rf.mstart rf.yQ rf.mQ = rf.R - s.lo ∧ s.hi = rf.dQ
    ∧ s.lastDay = monthLen (leap .gregorian rf.yQ) rf.mQ := by
  have vQ := rf.validQ
  rcases Int.lt_or_eq_of_le rf.ym_le with b | b
  · rw [rf.mstart_mid b (Int.le_refl _), rf.shape_Q b]
    split
    · exact ⟨_, rfl, (Int.sub_zero _).symm, rfl, rfl⟩
    · exact ⟨_, rfl, (Int.sub_zero _).symm, by simp only [IShape.hi]; omega, rfl⟩
  · obtain ⟨ey, em⟩ := ymKey_eq.mp b
    have hP := rf.startP
    rw [ey, em] at hP
    rw [rf.mstart_julian (by omega), rf.shape_PQ b]
    exact ⟨_, rfl, by simp only [IShape.lo]; omega, by simp only [IShape.hi]; omega, rfl⟩

/-- a day from R on lies in a month from that of Q on, which still has the day -/
theorem gregorian_month {j y : Int} {m : Month} {d : Int} (hj : rf.R ≤ j)
    (h : IsDate .gregorian j y m d) :
    ∃ s, rf.cal.monthIShape y m = some s ∧ rf.mstart y m ≤ j
      ∧ s.nthDay (j - rf.mstart y m + 1) = some d := by
  obtain ⟨hv, rfl⟩ := h
  have hd := hv.1
  rw [jdnOf_day]
  rcases (rf.ge_R_iff hv).mp hj with a | ⟨a, a2⟩
  · have hs := rf.shape_after y m a
    rw [rf.mstart_gregorian a,
      show jdnOf .gregorian y m 1 + (d - 1) - jdnOf .gregorian y m 1 + 1 = d by omega]
    exact ⟨_, hs, by omega,
      IShape.nthDay_self _ (rf.valid_all y m (Month.mem_all m) _ hs) hd (Or.inr ⟨rfl, hv.2⟩)⟩
  · obtain ⟨rfl, rfl⟩ := ymKey_eq.mp a
    obtain ⟨s, hs, e1, e2, e3⟩ := rf.month_Q
    have hv' := rf.valid_all _ _ (Month.mem_all _) s hs
    have := hv'.bounds; have hQ := rf.startQ
    rw [e1, show jdnOf .gregorian rf.yQ rf.mQ 1 + (d - 1) - (rf.R - s.lo) + 1 = d - s.hi + 1 + s.lo by omega]
    exact ⟨s, hs, by omega, s.nthDay_upper hv' (by omega) (by rw [e3]; exact hv.2)⟩

theorem julian_side_order {j y o : Int} (hj : j < rf.R) (h : j = yearStart .julian y + o - 1)
    (h1 : 1 ≤ o) : y < rf.yP ∨ (y = rf.yP ∧ o ≤ rf.oP) := by
  have hP := rf.oP_spec
  rcases Int.lt_trichotomy y rf.yP with c | c | c
  · exact Or.inl c
  · subst c; exact Or.inr ⟨rfl, by omega⟩
  · have := yearStart_lt .julian rf.yP y c
    omega

theorem gregorian_side_order {j y o : Int} (hj : rf.R ≤ j) (h : j = yearStart .gregorian y + o - 1)
    (h2 : o ≤ yearLen .gregorian y) : rf.yQ < y ∨ (y = rf.yQ ∧ rf.oQ ≤ o) := by
  have hQ := rf.oQ_spec
  rcases Int.lt_trichotomy y rf.yQ with c | c | c
  · have := yearStart_lt .gregorian y rf.yQ c
    omega
  · subst c; exact Or.inr ⟨rfl, by omega⟩
  · exact Or.inl c

/-- the year / day-of-year `at_jdn` computes below R: the Julian ones — the adjustment for
removed ordinals does not apply up to the last Julian date -/
theorem jdnYearOrdinal_julian {j y o : Int} (hj : j < rf.R) (h : jdn2julian j = (y, o)) :
    rf.cal.jdnYearOrdinal j = (y, j - rf.origin y + 1) := by
  obtain ⟨e, h1, _⟩ := jdn2julian_spec h
  have ho := rf.julian_side_order hj e h1
  have hle := rf.yP_le_yQ
  simp only [Calendar.jdnYearOrdinal, cal_eq, Calendar.gap, hj, decide_true, if_true, h, beq_iff_eq,
    Bool.and_eq_true, decide_eq_true_eq, ordinalGapStart_eq, postYear_eq]
  rw [if_neg, origin, if_pos (by omega)]
  · congr 1; omega
  rintro ⟨e1, e2⟩
  rcases ho with a | ⟨a, b⟩
  · omega
  · have e3 : rf.yP = rf.yQ := by omega
    have := (rf.ordinal_order e3).2
    rw [if_pos e3] at e2
    omega

/-- … and from R on: the Gregorian ones, less the removed ordinals in the year of the first
Gregorian date, which starts that much earlier than the Gregorian year -/
theorem jdnYearOrdinal_gregorian {j y o : Int} (hj : rf.R ≤ j) (h : jdn2gregorian j = (y, o)) :
    rf.cal.jdnYearOrdinal j = (y, j - rf.origin y + 1) := by
  obtain ⟨e, _, h2⟩ := jdn2gregorian_spec h
  have ho := rf.gregorian_side_order hj e h2
  have hQ := rf.oQ_spec; have hle := rf.yP_le_yQ
  simp only [Calendar.jdnYearOrdinal, cal_eq, Calendar.gap, show ¬ j < rf.R by omega, decide_false,
    Bool.false_eq_true, if_false, h, beq_iff_eq, Bool.and_eq_true, decide_eq_true_eq, ordinalGapStart_eq,
    ordinalGap_eq, postYear_eq]
  by_cases c : y = rf.yQ
  · subst c
    have : o > (if rf.yP = rf.yQ then rf.oQ - 1 else 0) := by split <;> omega
    rw [if_pos ⟨rfl, this⟩, origin_yQ, gapAmt]; congr 1; omega
  · rw [if_neg (fun h => c h.1), origin, if_neg (by omega), if_neg (by omega)]; congr 1; omega

/-- the central theorem: every day carries the label of its side — proleptic Julian below R,
proleptic Gregorian from R on — and is numbered from the start of its year and of its month -/
theorem atJdn_eq (j : Int) :
    ∃ y m d, IsDate (side rf.R j) j y m d
      ∧ rf.cal.atJdn? j
          = some ⟨rf.cal, y, j - rf.origin y + 1, m, d, j - rf.mstart y m + 1, j⟩ := by
  by_cases hj : j < rf.R
  · obtain ⟨y, m, d, hyo, hdate, _⟩ := jdn2yo_label .julian j
    obtain ⟨s, hs, h1, hn⟩ := rf.julian_month hj hdate
    refine ⟨y, m, d, by rwa [side, if_pos hj], ?_⟩
    simp only [Calendar.atJdn?, rf.jdnYearOrdinal_julian hj hyo, rf.ordinal2ymddo_at hs h1 hn]
  · obtain ⟨y, m, d, hyo, hdate, _⟩ := jdn2yo_label .gregorian j
    obtain ⟨s, hs, h1, hn⟩ := rf.gregorian_month (by omega) hdate
    refine ⟨y, m, d, by rwa [side, if_neg hj], ?_⟩
    simp only [Calendar.atJdn?, rf.jdnYearOrdinal_gregorian (by omega) hyo, rf.ordinal2ymddo_at hs h1 hn]

end Reform
end JV
