/-
Lemmas/Grammar.lean — `Calendar::parse_date` succeeds only on `[sign]digits-digits[-digits]` (what it returns on every
such text is in `Props/C13.lean`).

Each parser step has two lemmas: what it returns on a text already split into digits and a rest
that cannot continue them (`_append`, `parseDayInYear_ordinal`, `parseDayInYear_date`), and what a
success tells about the text (`_ok`).
Both come from `spanDigits_append` / `spanDigits_spec`.
-/
import JulianVerif.Lemmas.Digits
import JulianVerif.Lemmas.Ranges
namespace JV

theorem scanChar_eq_ok {ch : Char} {s r : List Char} : scanChar ch s = .ok r ↔ s = ch :: r := by
  fun_cases scanChar ch s <;> simp_all

theorem parseUInt_append {ds rest : List Char} (hd : AllDigits ds) (hr : NoDigitHead rest) :
    parseUInt (ds ++ rest)
      = if digitsVal ds 0 ≤ 4294967295 then .ok ((digitsVal ds 0 : Int), rest) else .error .parseInt := by
  have hs := spanDigits_append hd.2 hr
  cases ds with
  | nil => exact absurd rfl hd.1
  | cons d ds' => simp only [parseUInt, hs]

theorem parseUInt_ok {s : List Char} {n : Int} {rest : List Char} (h : parseUInt s = .ok (n, rest)) :
    ∃ ds, AllDigits ds ∧ s = ds ++ rest ∧ NoDigitHead rest ∧ n = digitsVal ds 0 ∧ n ≤ 4294967295 := by
  obtain ⟨ds, r, hsp⟩ : ∃ ds r, spanDigits s = (ds, r) := ⟨_, _, rfl⟩
  obtain ⟨e, hd, hr⟩ := spanDigits_eq_iff.mp hsp
  cases ds with
  | nil => simp only [parseUInt, hsp] at h; split at h <;> cases h
  | cons d ds' =>
    rw [e, parseUInt_append ⟨List.cons_ne_nil _ _, hd⟩ hr] at h
    by_cases hle : digitsVal (d :: ds') 0 ≤ 4294967295
    · rw [if_pos hle] at h
      cases h
      exact ⟨_, ⟨List.cons_ne_nil _ _, hd⟩, e, hr, rfl, Int.ofNat_le.mpr hle⟩
    · rw [if_neg hle] at h; cases h

inductive Sign where
  | none | minus | plus
  deriving DecidableEq, Repr

def Sign.chars : Sign → List Char
  | .none => [] | .minus => ['-'] | .plus => ['+']

def Sign.apply (sg : Sign) (n : Nat) : Int :=
  match sg with
  | .minus => -(n : Int)
  | _ => (n : Int)

/-- `parse_int` after its optional sign: the digits `scan` finds there decide.  Without a sign the
text has to start with a digit (`ht`): otherwise `parse_int` reports the offending character -/
theorem parseInt_sign (sg : Sign) (t : List Char)
    (ht : sg = .none → ∃ c cs, t = c :: cs ∧ isAsciiDigit c = true) :
    parseInt (sg.chars ++ t) =
      if (spanDigits t).1.isEmpty then .error .parseInt
      else if inI32 (sg.apply (digitsVal (spanDigits t).1 0))
        then .ok (sg.apply (digitsVal (spanDigits t).1 0), (spanDigits t).2) else .error .parseInt := by
  cases sg with
  | none =>
    obtain ⟨c, cs, rfl, hc⟩ := ht rfl
    have h1 : (c == '-' || c == '+') = false := by simp [digit_ne_sign hc]
    simp [Sign.chars, parseInt, h1, hc, Sign.apply, spanDigits]
  | minus => simp only [Sign.chars, List.cons_append, List.nil_append, parseInt]; rfl
  | plus => simp only [Sign.chars, List.cons_append, List.nil_append, parseInt]; rfl

theorem parseInt_append (sg : Sign) {ds rest : List Char} (hd : AllDigits ds) (hr : NoDigitHead rest) :
    parseInt (sg.chars ++ ds ++ rest)
      = if inI32 (sg.apply (digitsVal ds 0)) then .ok (sg.apply (digitsVal ds 0), rest)
        else .error .parseInt := by
  obtain ⟨d, ds', rfl⟩ := List.exists_cons_of_ne_nil hd.1
  rw [List.append_assoc, parseInt_sign sg (d :: ds' ++ rest) fun _ => ⟨d, ds' ++ rest, rfl, hd.2 d List.mem_cons_self⟩,
    spanDigits_append hd.2 hr]
  rfl

theorem parseInt_ok {s : List Char} {v : Int} {rest : List Char} (h : parseInt s = .ok (v, rest)) :
    ∃ (sg : Sign) (ds : List Char), AllDigits ds ∧ s = sg.chars ++ ds ++ rest ∧ NoDigitHead rest
      ∧ v = sg.apply (digitsVal ds 0) ∧ InI32 v := by
  obtain ⟨sg, t, rfl, ht⟩ : ∃ (sg : Sign) (t : List Char), s = sg.chars ++ t
      ∧ (sg = .none → ∃ c cs, t = c :: cs ∧ isAsciiDigit c = true) := by
    cases s with
    | nil => cases h
    | cons c cs =>
      by_cases hm : c = '-'
      · exact ⟨.minus, cs, hm ▸ rfl, nofun⟩
      by_cases hp : c = '+'
      · exact ⟨.plus, cs, hp ▸ rfl, nofun⟩
      by_cases hc : isAsciiDigit c = true
      · exact ⟨.none, c :: cs, rfl, fun _ => ⟨c, cs, rfl, hc⟩⟩
      · simp [parseInt, hm, hp, hc] at h
  obtain ⟨e, hd, hr⟩ := spanDigits_spec t
  rw [parseInt_sign sg t ht] at h
  by_cases hne : (spanDigits t).1.isEmpty = true
  · rw [if_pos hne] at h; cases h
  rw [if_neg hne] at h
  by_cases hin : inI32 (sg.apply (digitsVal (spanDigits t).1 0)) = true
  · rw [if_pos hin] at h
    cases h
    exact ⟨sg, _, ⟨by simpa using hne, hd⟩, by rw [List.append_assoc, ← e], hr, rfl, (inI32_iff _).mp hin⟩
  · rw [if_neg hin] at h; cases h

theorem parseDayInYear_ordinal {O : List Char} (hO : AllDigits O) :
    parseDayInYear O = if digitsVal O 0 ≤ 4294967295 then .ok (.ordinal (digitsVal O 0), [])
      else .error .parseInt := by
  have h := parseUInt_append hO noDigitHead_nil
  rw [List.append_nil] at h
  by_cases hle : digitsVal O 0 ≤ 4294967295 <;> simp [parseDayInYear, h, hle]

theorem parseDayInYear_date {M D rest : List Char} (hM : AllDigits M) (hD : AllDigits D)
    (hr : NoDigitHead rest) :
    parseDayInYear (M ++ '-' :: (D ++ rest)) =
      if digitsVal M 0 ≤ 4294967295 then
        match Month.ofInt? (digitsVal M 0) with
        | none => .error (.invalidMonth (digitsVal M 0))
        | some month =>
          if digitsVal D 0 ≤ 4294967295 then .ok (.date month (digitsVal D 0), rest) else .error .parseInt
      else .error .parseInt := by
  simp only [parseDayInYear, parseUInt_append hM (noDigitHead_dash _)]
  by_cases hle : digitsVal M 0 ≤ 4294967295 <;> simp only [hle, if_true, if_false]
  simp only [List.isEmpty_cons, Bool.false_eq_true, if_false]
  cases Month.ofInt? (digitsVal M 0 : Nat) with
  | none => rfl
  | some month =>
    simp only [scanChar_eq_ok.mpr rfl, parseUInt_append hD hr]
    by_cases hld : digitsVal D 0 ≤ 4294967295 <;> simp only [hld, if_true, if_false]

theorem parseDayInYear_ok {s : List Char} {diny : DayInYear} {rest : List Char}
    (h : parseDayInYear s = .ok (diny, rest)) :
    (AllDigits s ∧ rest = [] ∧ diny = .ordinal (digitsVal s 0) ∧ digitsVal s 0 ≤ 4294967295)
    ∨ (∃ M D month, AllDigits M ∧ AllDigits D ∧ s = M ++ '-' :: (D ++ rest) ∧ NoDigitHead rest
        ∧ Month.ofInt? (digitsVal M 0) = some month ∧ diny = .date month (digitsVal D 0)
        ∧ digitsVal D 0 ≤ 4294967295) := by
  -- of the six branches of the parser, the two that end in `Ok`
  revert h
  fun_cases parseDayInYear s with
  | case2 f1 r hu hre =>
    rintro ⟨⟩
    obtain ⟨A, hA, rfl, _, rfl, _⟩ := parseUInt_ok hu
    rw [List.isEmpty_iff.mp hre, List.append_nil]
    exact Or.inl ⟨hA, rfl, rfl, by omega⟩
  | case6 f1 r hu _ month hmo r4 hsc day r6 hu2 =>
    rintro ⟨⟩
    obtain ⟨A, hA, rfl, _, rfl, _⟩ := parseUInt_ok hu
    obtain ⟨B, hB, rfl, hr, rfl, _⟩ := parseUInt_ok hu2
    exact Or.inr ⟨A, B, month, hA, hB, by rw [scanChar_eq_ok.mp hsc], hr, hmo, rfl, by omega⟩
  | _ => nofun

theorem parseDate_ok_shape (c : Calendar) (s : List Char) (d : Date) (h : c.parseDate s = .ok d) :
    ∃ (sg : Sign) (Y : List Char), AllDigits Y ∧ InI32 (sg.apply (digitsVal Y 0)) ∧
      ((∃ O, AllDigits O ∧ s = sg.chars ++ Y ++ '-' :: O
          ∧ c.atOrdinalDate (sg.apply (digitsVal Y 0)) (digitsVal O 0) = .ok d)
       ∨ (∃ M D month, AllDigits M ∧ AllDigits D ∧ s = sg.chars ++ Y ++ '-' :: (M ++ '-' :: D)
          ∧ Month.ofInt? (digitsVal M 0) = some month
          ∧ c.atYmd (sg.apply (digitsVal Y 0)) month (digitsVal D 0) = .ok d)) := by
  -- likewise: of the eight branches of `parse_date`, the two that return a date
  revert h
  fun_cases Calendar.parseDate c s with
  | case5 year r1 hpi r2 hsc r3 _ o _ hd hpd =>
    rintro ⟨⟩
    obtain ⟨sg, Y, hY, rfl, _, rfl, hin⟩ := parseInt_ok hpi
    rcases parseDayInYear_ok hpd with ⟨hO, _, e, _⟩ | ⟨_, _, _, _, _, _, _, _, e, _⟩ <;> cases e
    exact ⟨sg, Y, hY, hin, Or.inl ⟨_, hO, by rw [scanChar_eq_ok.mp hsc], hd⟩⟩
  | case7 year r1 hpi r2 hsc r3 htr month day _ hd hpd =>
    rintro ⟨⟩
    obtain ⟨sg, Y, hY, rfl, _, rfl, hin⟩ := parseInt_ok hpi
    rcases parseDayInYear_ok hpd with ⟨_, _, e, _⟩ | ⟨M, D, mo, hM, hD, rfl, _, hmo, e, _⟩ <;> cases e
    rw [show r3 = [] by simpa using htr, List.append_nil] at hsc
    exact ⟨sg, Y, hY, hin, Or.inr ⟨M, D, _, hM, hD, by rw [scanChar_eq_ok.mp hsc], hmo, hd⟩⟩
  | _ => nofun

end JV
