/-
Lemmas/CheckedCal.lean — no machine operation of the `Calendar` / `Date` methods overflows
and no `unreachable!()` is reached, for every calendar that is `Bounded`
(Lemmas/Bounded.lean: every well-formed one).
-/
import JulianVerif.Lemmas.Bounded
import JulianVerif.Lemmas.CheckedShape
namespace JV

namespace Chk

theorem yearKind_reform_year (r : Int) (gap : ReformGap) (y : Int)
    (h : (Calendar.reforming r gap).yearKind y = .reformCommon
      ∨ (Calendar.reforming r gap).yearKind y = .reformLeap) :
    y = gap.postReform.year ∨ y = gap.preReform.year := by
  -- `year_kind` branches on `cmp_year`; only its arms for the two boundary years name such a kind
  simp only [Calendar.yearKind, ReformGap.cmpYear, JV.cmpIntRange, beq_iff_eq] at h
  grind

/-- `year_length` reaches neither its `unreachable!()` nor its `debug_assert!`, whatever the calendar;
its one subtraction is in range when the length is -/
theorem yearLength_eq (c : Calendar) (y : Int) (h0 : 0 ≤ c.yearLength y) (h1 : c.yearLength y ≤ 366) :
    yearLength c y = some (c.yearLength y) := by
  cases c with
  | julian => simp only [yearLength, Calendar.yearLength, Calendar.yearKind]; cases isJulianLeapYear y <;> rfl
  | gregorian => simp only [yearLength, Calendar.yearLength, Calendar.yearKind]; cases isGregorianLeapYear y <;> rfl
  | reforming r gap =>
    have hk := yearKind_reform_year r gap y
    simp only [Calendar.yearLength] at h0 h1
    simp only [yearLength, Calendar.yearLength, pure]
    generalize (Calendar.reforming r gap).yearKind y = k at *
    cases k
    case common | leap | skipped => rfl
    case reformCommon | reformLeap =>
      by_cases hq : (y == gap.postReform.year) = true
      · simp only [hq, if_true] at h0 h1 ⊢
        exact u32_eq_some ⟨h0, by omega⟩
      · -- not the first Gregorian year, so the last Julian one: the `debug_assert!` holds
        simp only [hq, if_false, Bool.false_eq_true]
        rcases hk (by simp) with e | e
        · simp [e] at hq
        · simp [e]

/-- `month_shape`: the days of the two boundary labels are days of a month, so the ends of the gap are `u32`s -/
theorem monthIShape_eq (c : Calendar) (y : Int) (m : Month)
    (h : ∀ gap, c.gap = some gap → 0 ≤ gap.preReform.day ∧ gap.preReform.day ≤ 31
      ∧ 1 ≤ gap.postReform.day ∧ gap.postReform.day ≤ 31) :
    monthIShape c y m = some (c.monthIShape y m) := by
  cases c with
  | julian => rfl
  | gregorian => rfl
  | reforming r gap =>
    have := h gap rfl
    simp only [monthIShape, Calendar.monthIShape, Calendar.gap]
    cases gap.cmpYearMonth y m <;> simp (disch := omega) only [chk]

theorem nextYearAfter_eq (c : Calendar) (y : Int) (h : InI32 (y + 1)) :
    nextYearAfter c y = some (c.nextYearAfter y) := by
  simp only [nextYearAfter, Calendar.nextYearAfter]
  cases c.gap <;> simp (disch := omega) only [chk]

theorem prevYearBefore_eq (c : Calendar) (y : Int) (h : InI32 (y - 1)) :
    prevYearBefore c y = some (c.prevYearBefore y) := by
  simp only [prevYearBefore, Calendar.prevYearBefore]
  cases c.gap <;> simp (disch := omega) only [chk]

/-- whichever kernel `at_jdn` picks, it does not overflow -/
theorem ite_jdn2julian_jdn2gregorian_bind {β : Type} (b : Bool) {j : Int} (hj : InI32 j)
    (k : Int × Int → Option β) :
    (if b = true then (jdn2julian j).bind k else (jdn2gregorian j).bind k)
      = k (if b = true then JV.jdn2julian j else JV.jdn2gregorian j) := by
  cases b
  · simp only [Bool.false_eq_true, if_false, jdn2gregorian_eq j hj, Option.bind_some]
  · simp only [if_true, jdn2julian_eq j hj, Option.bind_some]

end Chk

namespace Bounded
open Chk
variable {c : Calendar} (B : Bounded c)

include B in
theorem monthIShape_eq (y : Int) (m : Month) : monthIShape c y m = some (c.monthIShape y m) :=
  Chk.monthIShape_eq c y m fun gap hg => (B.gapRange gap hg).2.2.2.2

include B in
theorem yearLength_eq (y : Int) : yearLength c y = some (c.yearLength y) :=
  Chk.yearLength_eq c y (B.yearLength_nonneg y) (B.ylen_le y)

include B in
theorem ordinal2ymddoLoop_eq (y : Int) (ms : List Month) (days : Int) (r : Month × Int × Int)
    (h1 : 1 ≤ days) (h2 : days ≤ 4294967295) (h : c.ordinal2ymddoLoop y ms days = .ok r) :
    ordinal2ymddoLoop c y ms days = some r := by
  fun_induction Calendar.ordinal2ymddoLoop c y ms days with
  | case1 days => cases h
  | case2 x xs days s hs d hd =>
    cases h
    simp only [ordinal2ymddoLoop, B.monthIShape_eq y x, hs, nthDay_eq s (B.fits hs) days ⟨by omega, h2⟩, hd, bind,
      Option.bind_some]
    rfl
  | case3 x xs days s hs hd ih =>
    have hf := B.fits hs
    -- `nth_day` declined although `1 ≤ days`: the month is shorter than `days`
    have hlen : ¬ days ≤ s.len := fun a => by
      obtain ⟨_, e⟩ := (IShape.nthDay_some_iff s hf.1.valid days (by omega)).mpr ⟨h1, a⟩
      rw [hd] at e; cases e
    have hl0 := s.len_nonneg hf.1.valid
    simp only [ordinal2ymddoLoop, B.monthIShape_eq y x, hs, nthDay_eq s hf days ⟨by omega, h2⟩, hd, len_eq s hf, bind,
      Option.bind_some]
    rw [u32_bind (by omega)]
    exact ih (by omega) (by omega) h
  | case4 x xs days hs ih =>
    simp only [ordinal2ymddoLoop, B.monthIShape_eq y x, hs, bind, Option.bind_some]
    exact ih h1 h2 h

include B in
theorem ordinal2ymddo_eq (y o : Int) (ho : InU32 o) :
    ordinal2ymddo c y o = some (c.ordinal2ymddo y o) := by
  simp only [ordinal2ymddo, B.yearLength_eq y, bind, pure, Option.bind_some]
  by_cases hr : 1 ≤ o ∧ o ≤ c.yearLength y
  · obtain ⟨m, s, d, _, hw, _⟩ := c.ordinal2ymddo_of_range y (B.valid y) (B.lenSum y) hr.1 hr.2
    have hg : (decide (o < 1) || decide (o > c.yearLength y)) = false := by simp; omega
    have hl := hw
    simp only [Calendar.ordinal2ymddo, hg, Bool.false_eq_true, if_false] at hl
    simp only [hg, hw, B.ordinal2ymddoLoop_eq y Month.all o _ hr.1 ho.2 hl, Option.bind_some]; rfl
  · have hg : (decide (o < 1) || decide (o > c.yearLength y)) = true := by simp; omega
    simp only [hg, Calendar.ordinal2ymddo_err hr, if_true]

include B in
theorem ymdo2ordinalLoop_eq (y : Int) (m : Month) (k : Int) (hk0 : 0 ≤ k) (hk : k ≤ 31)
    (ms : List Month) (acc : Int) (hm : m ∈ ms) (h0 : 0 ≤ acc)
    (hb : acc + 31 * (ms.length + 1) ≤ 4294967295) :
    ymdo2ordinalLoop c y m k ms acc = some (c.ymdo2ordinalLoop y m k ms acc) := by
  -- the accumulator grows by at most 31 per month walked, so it stays in the u32 range
  fun_induction Calendar.ymdo2ordinalLoop c y m k ms acc with
  | case1 acc => cases hm
  | case2 x xs acc hx =>
    simp only [List.length_cons] at hb
    simp only [ymdo2ordinalLoop, hx, if_true]
    exact u32_eq_some (by omega)
  | case3 x xs acc hx s hs ih =>
    have hm' : m ∈ xs := (List.mem_cons.mp hm).resolve_left fun e => hx (e ▸ beq_self_eq_true x)
    have hf := B.fits hs
    have hl0 := s.len_nonneg hf.1.valid
    have hl1 := hf.len_le
    simp only [List.length_cons] at hb
    simp only [ymdo2ordinalLoop, hx, if_false, Bool.false_eq_true, B.monthIShape_eq y x, hs, len_eq s hf, bind,
      Option.bind_some]
    rw [u32_bind (by omega)]
    exact ih hm' (by omega) (by omega)
  | case4 x xs acc hx hs ih =>
    have hm' : m ∈ xs := (List.mem_cons.mp hm).resolve_left fun e => hx (e ▸ beq_self_eq_true x)
    simp only [List.length_cons] at hb
    simp only [ymdo2ordinalLoop, hx, if_false, Bool.false_eq_true, B.monthIShape_eq y x, hs, bind, Option.bind_some]
    exact ih hm' h0 (by omega)

include B in
theorem ymdo2ordinal_eq (y : Int) (m : Month) (k : Int) (hk0 : 0 ≤ k) (hk : k ≤ 31) :
    ymdo2ordinal c y m k = some (c.ymdo2ordinal y m k) :=
  B.ymdo2ordinalLoop_eq y m k hk0 hk Month.all 0 (Month.mem_all m) (by omega)
    (by simp [Month.all])

include B in
theorem getDayOrdinal_eq (y : Int) (m : Month) (d : Int) (hd : InU32 d) :
    getDayOrdinal c y m d = some (c.getDayOrdinal y m d) := by
  simp only [getDayOrdinal, Calendar.getDayOrdinal, B.monthIShape_eq y m, bind, pure, Option.bind_some]
  cases hs : c.monthIShape y m with
  | none => rfl
  | some s => exact dayOrdinalErr_eq s (B.fits hs) y m d hd

include B in
/-- `get_jdn`, called with a day-of-year of the year -/
theorem getJdn_eq (y : Int) (hy : InI32 y) (o : Int) (h1 : 1 ≤ o) (h2 : o ≤ c.yearLength y) :
    getJdn c y o = some (c.getJdn y o) := by
  have hle := B.ylen_le y
  cases c with
  | julian => exact julian2jdn_eq y o h1 (by omega)
  | gregorian => exact gregorian2jdn_eq y o hy h1 (by omega)
  | reforming r gap =>
    obtain ⟨g0, g1, g2, g3, _⟩ := B.gapRange gap rfl
    simp only [getJdn, Calendar.getJdn, Calendar.gap, bind, pure]
    by_cases hc : (y == gap.postReform.year && decide (o ≥ gap.postReform.ordinal)) = true
    · -- a day after the gap: the day-of-year is shifted, then read by the Gregorian rule
      have ⟨hyq, hoq⟩ : y = gap.postReform.year ∧ gap.postReform.ordinal ≤ o := by
        simpa only [Bool.and_eq_true, beq_iff_eq, decide_eq_true_eq] using hc
      have hu : (decide (y < gap.postReform.year)
          || (y == gap.postReform.year && decide (o + gap.ordinalGap < gap.postReform.ordinal))) = false := by
        simp; omega
      simp (disch := omega) only [hc, if_true, chk, hu, Bool.false_eq_true, if_false]
      exact gregorian2jdn_eq y _ hy (by omega) (by rw [hyq] at h2; omega)
    · simp only [hc, if_false, Bool.false_eq_true, Option.bind_some]
      split
      · exact julian2jdn_eq y o h1 (by omega)
      · exact gregorian2jdn_eq y o hy h1 (by omega)

include B in
theorem atOrdinalDate_eq (y : Int) (hy : InI32 y) (o : Int) (ho : InU32 o) :
    atOrdinalDate c y o = some (c.atOrdinalDate y o) := by
  simp only [atOrdinalDate, Calendar.atOrdinalDate, B.ordinal2ymddo_eq y o ho, bind, pure,
    Option.bind_some]
  cases hw : c.ordinal2ymddo y o with
  | error e => rfl
  | ok r =>
    obtain ⟨h1, h2, _⟩ := B.ordinal2ymddo_inv hw
    simp only [B.getJdn_eq y hy o h1 h2, Option.bind_some]
    cases c.getJdn y o <;> rfl

include B in
theorem atYmd_eq (y : Int) (hy : InI32 y) (m : Month) (d : Int) (hd : InU32 d) :
    atYmd c y m d = some (c.atYmd y m d) := by
  simp only [atYmd, Calendar.atYmd, B.getDayOrdinal_eq y m d hd, bind, pure, Option.bind_some]
  cases hdo : c.getDayOrdinal y m d with
  | error e => rfl
  | ok k =>
    obtain ⟨s, hs, hn, hk1, hk2⟩ := B.toAccepting.getDayOrdinal_ok hd.1 hdo
    have hl1 := (B.fits hs).len_le
    -- the day-of-year handed to `get_jdn` is one of the year
    obtain ⟨ho1, ho2⟩ := Calendar.ordinal2ymddo_ok_range
      ((c.ordinal2ymddo_ok_iff y (B.valid y) (B.lenSum y)).mpr ⟨s, hs, hn, hk1, c.ymdo2ordinal_eq y m k⟩)
    simp only [B.ymdo2ordinal_eq y m k (by omega) (by omega), B.getJdn_eq y hy _ ho1 ho2,
      Option.bind_some]
    cases c.getJdn y (c.ymdo2ordinal y m k) <;> rfl

include B in
theorem nthDate_eq (y : Int) (hy : InI32 y) (m : Month) (s : IShape)
    (hs : c.monthIShape y m = some s) (n : Int) (hn : InU32 n) :
    nthDate ⟨c, y, m, s⟩ n = some (MonthShape.nthDate ⟨c, y, m, s⟩ n) := by
  have hf := B.fits hs
  simp only [nthDate, MonthShape.nthDate, MonthShape.nthDay, nthDay_eq s hf n hn, bind, pure,
    Option.bind_some]
  cases hd : s.nthDay n with
  | none => rfl
  | some day =>
    have := IShape.nthDay_range hf.1.valid hn.1 hd
    simp only [B.atYmd_eq y hy m day ⟨by omega, by have := hf.2; omega⟩, Option.bind_some]
    cases c.atYmd y m day <;> rfl

include B in
theorem jdnYearOrdinal_eq (j : Int) (hj : InI32 j) :
    jdnYearOrdinal c j = some (c.jdnYearOrdinal j) := by
  cases c with
  | julian =>
    simp only [jdnYearOrdinal, Calendar.jdnYearOrdinal, Calendar.gap, bind, pure, if_true,
      jdn2julian_eq j hj, Option.bind_some]
  | gregorian =>
    simp only [jdnYearOrdinal, Calendar.jdnYearOrdinal, Calendar.gap, bind, pure, Bool.false_eq_true,
      if_false, jdn2gregorian_eq j hj, Option.bind_some]
  | reforming r gap =>
    obtain ⟨d, hd, _⟩ := B.block j
    obtain ⟨hf, ho1, ho2, _⟩ := B.field_ranges hd
    -- the only checked step after the kernel is the gap adjustment, and its result is `d.ordinal`
    have hres : InU32 ((Calendar.reforming r gap).jdnYearOrdinal j).2 := by
      rw [hf]; exact ⟨by omega, by omega⟩
    revert hres
    simp only [jdnYearOrdinal, Calendar.jdnYearOrdinal, Calendar.gap, bind, pure,
      ite_jdn2julian_jdn2gregorian_bind _ hj]
    generalize (if decide (j < r) = true then JV.jdn2julian j else JV.jdn2gregorian j) = p
    by_cases hc : (p.1 == gap.postReform.year && decide (p.2 > gap.ordinalGapStart)) = true
    · simp only [hc, if_true]
      intro hres
      rw [u32_eq_some hres]; rfl
    · simp only [hc, if_false, Bool.false_eq_true, implies_true]

include B in
/-- no `some` on the right: the `unreachable!()` after `ordinal2ymddo` is `none` on both sides -/
theorem atJdn_eq (j : Int) (hj : InI32 j) : atJdn c j = c.atJdn? j := by
  obtain ⟨d, hd, _⟩ := B.block j
  obtain ⟨hf, ho1, ho2, _⟩ := B.field_ranges hd
  simp only [atJdn, Calendar.atJdn?, B.jdnYearOrdinal_eq j hj, hf, bind, pure, Option.bind_some,
    B.ordinal2ymddo_eq d.year d.ordinal ⟨by omega, by omega⟩]
  cases c.ordinal2ymddo d.year d.ordinal <;> rfl

include B in
theorem succ_eq (d : Date) (hcan : c.atJdn? d.jdn = some d) (hy : InI32 (d.year + 1)) :
    succ d = some d.succ := by
  obtain ⟨_, ho1, ho2, _⟩ := B.field_ranges hcan
  have hcal := (atJdn?_parts hcan).1
  simp (disch := omega) only [succ, Date.succ, hcal, chk, B.ordinal2ymddo_eq, nextYearAfter_eq]
  -- the steps are run; what is left has `some` at the leaves on one side and at the root on the other
  cases inI32 (d.jdn + 1) <;> try rfl
  cases c.ordinal2ymddo d.year (d.ordinal + 1) with
  | ok r => rfl
  | error e =>
    cases e <;> try rfl
    cases c.ordinal2ymddo (c.nextYearAfter d.year) 1 <;> rfl

include B in
theorem pred_eq (d : Date) (hcan : c.atJdn? d.jdn = some d) (hy : InI32 (d.year - 1)) :
    pred d = some d.pred := by
  obtain ⟨_, ho1, ho2, _⟩ := B.field_ranges hcan
  have hcal := (atJdn?_parts hcan).1
  have := B.ylen_le (c.prevYearBefore d.year)
  have := B.yearLength_nonneg (c.prevYearBefore d.year)
  simp (disch := omega) only [pred, Date.pred, hcal, chk, B.ordinal2ymddo_eq, prevYearBefore_eq, B.yearLength_eq]
  cases inI32 (d.jdn - 1) <;> try rfl
  by_cases h1 : d.ordinal > 1 <;> simp only [h1, if_true, if_false, Bool.true_eq_false]
  · cases c.ordinal2ymddo d.year (d.ordinal - 1) <;> rfl
  · cases c.ordinal2ymddo (c.prevYearBefore d.year) (c.yearLength (c.prevYearBefore d.year)) <;> rfl

end Bounded
end JV
