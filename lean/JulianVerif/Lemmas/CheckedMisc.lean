/-
Lemmas/CheckedMisc.lean — `Calendar::reforming`, `unix2jdn`, `system2jdn` and the trimming loops
of `Dates::new` never overflow or panic.
-/
import JulianVerif.Lemmas.CheckedCal
namespace JV
open Spec

namespace Chk

theorem mkReforming_eq (R : Int) (hR : InI32 R) :
    mkReforming R = some (Calendar.mkReforming R) := by
  obtain ⟨yP, mP, dP, yQ, mQ, dQ, hdP, hdQ, hatP, hatQ, e⟩ := JV.mkReforming_eq R
  rw [e]
  by_cases hR1 : InI32 (R - 1)
  rotate_left
  · -- `checked_sub` fails
    simp only [mkReforming, (inI32_eq_false_iff _).mpr hR1, Bool.not_false, if_true, pure, if_pos hR1]
  have hcP := (ruleCal_bounded .julian).atJdn_eq (R - 1) hR1
  have hcQ := (ruleCal_bounded .gregorian).atJdn_eq R hR
  simp only [ruleCal] at hcP hcQ
  have hyP := (year_of_jdn_inI32 hR1 hdP).2
  have oP := (IsDate.doy hdP).2
  have lP := yearLen_bounds .julian yP
  have oQ := (IsDate.doy hdQ).2
  have lQ := yearLen_bounds .gregorian yQ
  -- the day-of-year handed to `JULIAN.get_jdn`, and what comes back
  obtain ⟨o, ho⟩ : ∃ o, o = if (yQ.tmod 100 == 0 && yQ.tmod 400 != 0 && Month.february.lt mQ) = true
      then daysBefore (leap .gregorian yQ) mQ + dQ + 1 else daysBefore (leap .gregorian yQ) mQ + dQ :=
    ⟨_, rfl⟩
  obtain ⟨o1, o2, hg⟩ := julian_getJdn_label hdQ ho
  have hord : reformOrdinal ⟨.gregorian, yQ, daysBefore (leap .gregorian yQ) mQ + dQ, mQ, dQ, dQ, R⟩
      = some o := by
    simp only [reformOrdinal, ho]
    split
    · exact u32_eq_some (by omega)
    · rfl
  have hgj : getJdn .julian yQ o = some (Calendar.julian.getJdn yQ o) := julian2jdn_eq yQ o o1 (by omega)
  simp only [mkReforming, (inI32_iff _).mpr hR1, Bool.not_true, Bool.false_eq_true, if_false, bind, pure, hcP, hcQ, hatP, hatQ, hord,
    hgj, hg, Option.bind_some, if_neg (not_not_intro hR1)]
  by_cases hi : InI32 (jdnOf .julian yQ mQ dQ)
  rotate_left
  · simp only [if_neg hi, if_pos hi]
  simp only [if_pos hi, if_neg (not_not_intro hi)]
  by_cases hle : jdnOf .julian yQ mQ dQ ≤ R
  · simp only [if_pos hle]
  simp only [if_neg hle, gapKindForDates_eq yP mP yQ mQ (by omega), Option.bind_some, mkGap]
  -- P and Q are the labels of a reforming calendar: same year only with P's ordinal below Q's
  let rf : Reform := ⟨R, yP, mP, dP, yQ, mQ, dQ, hdP, hdQ, by omega⟩
  have hoo : yP = yQ → (daysBefore (leap .julian yP) mP + dP) + 1
      ≤ daysBefore (leap .gregorian yQ) mQ + dQ := fun e => (rf.ordinal_order e).2
  cases hk : GapKind.forDates yP mP yQ mQ
  case intraMonth | crossMonth =>
    have := hoo (GapKind.forDates_sameYear hk (by simp))
    simp (disch := omega) only [chk]
  case crossYear | multiYear => simp (disch := omega) only [chk]

theorem unix2jdn_eq (t : Int) (ht : InI64 t) : unix2jdn t = some (JV.unix2jdn t) := by
  simp (disch := omega) only [unix2jdn, JV.unix2jdn, inI32, chk]

/-- `system2jdn`: `secs` is a `u64`, `nanos` a sub-second count -/
theorem system2jdn_eq (before : Bool) (secs nanos : Int) (hs : 0 ≤ secs) :
    system2jdn before secs nanos = some (JV.system2jdn before secs nanos) := by
  cases before <;>
    simp (disch := omega) only [system2jdn, JV.system2jdn, chk, unix2jdn_eq, apply_ite JV.unix2jdn,
      Bool.false_eq_true, if_true, if_false]

theorem trimStart_eq (s : MonthShape) : ∀ (fuel : Nat) (start stop : Int), 0 ≤ start →
    stop ≤ 4294967294 → trimStart s fuel start stop = some (Dates.trimStart s fuel start stop) := by
  intro fuel
  induction fuel with
  | zero => intro start stop _ _; rfl
  | succ n ih =>
    intro start stop h0 h1
    simp (disch := omega) only [trimStart, Dates.trimStart, chk, ih]

theorem trimEnd_eq (s : MonthShape) : ∀ (fuel : Nat) (start stop : Int), 1 ≤ start →
    stop ≤ 4294967295 → trimEnd s fuel start stop = some (Dates.trimEnd s fuel start stop) := by
  intro fuel
  induction fuel with
  | zero => intro start stop _ _; rfl
  | succ n ih =>
    intro start stop h0 h1
    simp (disch := omega) only [trimEnd, Dates.trimEnd, chk, ih]

end Chk
end JV
