/-
Lemmas/AtJdn.lean — `at_jdn` for every well-formed calendar, in one statement.
-/
import JulianVerif.Lemmas.ReformAtJdn
namespace JV
open Spec

/-- a calendar a caller can hold: proleptic, or returned by `Calendar::reforming` -/
def WF (c : Calendar) : Prop :=
  c = .julian ∨ c = .gregorian ∨ ∃ R, InI32 R ∧ Calendar.mkReforming R = .ok c

theorem WF.julian : WF .julian := Or.inl rfl

theorem WF.gregorian : WF .gregorian := Or.inr (Or.inl rfl)

theorem WF.of_mkReforming {R : Int} {c : Calendar} (hR : InI32 R)
    (hc : Calendar.mkReforming R = .ok c) : WF c :=
  Or.inr (Or.inr ⟨R, hR, hc⟩)

/-- the rule in force on day `j` -/
def ruleAt : Calendar → Int → Rule
  | .julian, _ => .julian
  | .gregorian, _ => .gregorian
  | .reforming r _, j => side r j

theorem WF.cases {c : Calendar} (h : WF c) :
    c = .julian ∨ c = .gregorian ∨ ∃ rf : Reform, c = rf.cal ∧ InI32 rf.R ∧ InI32 (rf.R - 1) := by
  rcases h with h | h | ⟨R, hR, h⟩
  · exact Or.inl h
  · exact Or.inr (Or.inl h)
  · obtain ⟨rf, e, rfl, hR1⟩ := mk_reform h
    exact Or.inr (Or.inr ⟨rf, e, hR, hR1⟩)

theorem atJdn_total (c : Calendar) (hc : WF c) (j : Int) :
    ∃ d, c.atJdn? j = some d ∧ d.calendar = c ∧ d.jdn = j
      ∧ IsDate (ruleAt c j) j d.year d.month d.day := by
  rcases hc.cases with rfl | rfl | ⟨rf, rfl, _⟩
  · obtain ⟨y, m, d, h, hd⟩ := ruleCal_atJdn .julian j
    exact ⟨_, h, rfl, rfl, hd⟩
  · obtain ⟨y, m, d, h, hd⟩ := ruleCal_atJdn .gregorian j
    exact ⟨_, h, rfl, rfl, hd⟩
  · obtain ⟨y, m, d, hd, h⟩ := rf.atJdn_eq j
    exact ⟨_, h, rfl, rfl, hd⟩

/-- the year of a 32-bit day fits 32 bits, with room to spare -/
theorem WF.yrange {c : Calendar} (hc : WF c) {j : Int} {d : Date} (hj : InI32 j)
    (h : c.atJdn? j = some d) : InI32 d.year ∧ -5884400 ≤ d.year ∧ d.year ≤ 5874900 := by
  obtain ⟨d', h', _, _, hd⟩ := atJdn_total c hc j
  rw [h] at h'; cases h'
  exact year_of_jdn_inI32 hj hd

namespace Reform
variable (rf : Reform)

theorem lastJulianDate_eq : rf.cal.lastJulianDate = rf.cal.atJdn? (rf.R - 1) := by
  obtain ⟨y, m, d, hd, h⟩ := rf.atJdn_eq (rf.R - 1)
  rw [side, if_pos (by omega)] at hd
  obtain ⟨rfl, rfl, rfl⟩ := isDate_unique hd rf.hP
  have := rf.oP_spec; have := rf.startP
  rw [h, origin, if_pos (Int.le_refl _), rf.mstart_julian (Int.le_refl _),
    show rf.R - 1 - yearStart .julian rf.yP + 1 = rf.oP by omega,
    show rf.R - 1 - jdnOf .julian rf.yP rf.mP 1 + 1 = rf.dP by omega]
  rfl

theorem firstGregorianDate_eq : rf.cal.firstGregorianDate = rf.cal.atJdn? rf.R := by
  obtain ⟨y, m, d, hd, h⟩ := rf.atJdn_eq rf.R
  rw [side, if_neg (by omega)] at hd
  obtain ⟨rfl, rfl, rfl⟩ := isDate_unique hd rf.hQ
  have e1 : rf.gap.postReform.ordinal = rf.R - rf.origin rf.yQ + 1 := by
    rw [postOrdinal_eq, origin_yQ]; omega
  have e2 : (if (GapKind.forDates rf.yP rf.mP rf.yQ rf.mQ == .intraMonth) = true then rf.dP + 1 else 1)
      = rf.R - rf.mstart rf.yQ rf.mQ + 1 := by
    have hP := rf.startP
    simp only [rf.intraMonth_iff]; split
    · rename_i b
      obtain ⟨ey, em⟩ := ymKey_eq.mp b
      rw [rf.mstart_julian (by omega), ← ey, ← em]; omega
    · rw [rf.mstart_mid (by have := rf.ym_le; omega) (Int.le_refl _)]; omega
  rw [h, ← e1, ← e2]
  rfl

end Reform
end JV
