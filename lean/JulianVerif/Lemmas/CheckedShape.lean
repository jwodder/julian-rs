/-
Lemmas/CheckedShape.lean — no u32 operation of the `MonthShape` methods overflows, for every
shape `month_shape` can return and every `u32` argument.
-/
import JulianVerif.Lemmas.CheckedKernels
import JulianVerif.Lemmas.Shape
namespace JV

namespace Chk

/-! Shape by shape, each subtraction and addition is in range by the tests that lead to it. -/

theorem len_eq (s : IShape) (h : s.Fits) : len s = some s.len := by
  cases s <;> simp only [IShape.Fits, IShape.Proper, IShape.naturalMax] at h <;>
    simp (disch := omega) only [len, IShape.len, chk]

theorem dayOrdinalErr_eq (s : IShape) (h : s.Fits) (y : Int) (m : Month) (d : Int) (hd : InU32 d) :
    dayOrdinalErr s y m d = some (s.dayOrdinalErr y m d) := by
  cases s <;> simp only [IShape.Fits, IShape.Proper, IShape.naturalMax] at h <;>
    simp (disch := omega) only [dayOrdinalErr, IShape.dayOrdinalErr, chk]

theorem nthDay_eq (s : IShape) (h : s.Fits) (n : Int) (hn : InU32 n) :
    nthDay s n = some (s.nthDay n) := by
  cases s <;> simp only [IShape.Fits, IShape.Proper, IShape.naturalMax] at h <;>
    simp (disch := omega) only [nthDay, IShape.nthDay, chk]

theorem gap_eq (s : IShape) (h : s.Fits) : gap s = some s.gap := by
  cases s <;> simp only [IShape.Fits, IShape.Proper, IShape.naturalMax] at h <;>
    simp (disch := omega) only [gap, IShape.gap, chk]

end Chk
end JV
