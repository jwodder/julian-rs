/-
Lemmas/CliRun.lean — `Options::run` of the julian command: one line per argument or none,
never a panic for a well-formed calendar.
-/
import JulianVerif.Model.Cli
import JulianVerif.Lemmas.AtJdn
namespace JV
namespace Cli

/-- what one argument contributes: its output line, a parse failure (`false`) or a panic
(`true`) -/
def argLine (o : Options) (arg : String) : Except Bool String :=
  match o.parseArg arg with
  | none => .error false
  | some (.date d) => .ok (o.dateToJdn d)
  | some (.jdn j) =>
    match o.jdnToDate j with
    | some s => .ok s
    | none => .error true

/-- all lines, or the first failure -/
def argLines (o : Options) : List String → Except Bool (List String)
  | [] => .ok []
  | a :: as =>
    match argLine o a with
    | .error e => .error e
    | .ok l =>
      match argLines o as with
      | .error e => .error e
      | .ok ls => .ok (l :: ls)

theorem foldl_error (o : Options) (args : List String) (e : Bool) :
    args.foldl (runStep o) (.error e) = .error e := by
  induction args with
  | nil => rfl
  | cons a as ih => simp only [List.foldl_cons, runStep]; exact ih

theorem runStep_ok (o : Options) (lines : List String) (a : String) :
    runStep o (.ok lines) a =
      match argLine o a with
      | .ok l => .ok (lines ++ [l])
      | .error e => .error e := by
  unfold runStep argLine
  cases o.parseArg a with
  | none => rfl
  | some x =>
    cases x with
    | date d => rfl
    | jdn j => dsimp only; cases o.jdnToDate j <;> rfl

theorem foldl_spec (o : Options) (args : List String) (acc : List String) :
    args.foldl (runStep o) (.ok acc)
      = (match argLines o args with
         | .ok ls => .ok (acc ++ ls)
         | .error e => .error e) := by
  induction args generalizing acc with
  | nil => simp [argLines]
  | cons a as ih =>
    rw [List.foldl_cons, runStep_ok, argLines]
    cases argLine o a with
    | error e => exact foldl_error o as e
    | ok l =>
      rw [ih]
      cases argLines o as <;> simp

theorem run_nil (o : Options) (today : Int) :
    o.run today [] =
      match o.calendar.atJdn? today with
      | none => .panic
      | some d =>
        .ok (if o.json then jsonPatch [jsonStart o.calendar, o.dateToJdn d] else [o.dateToJdn d]) := by
  unfold Options.run
  cases o.calendar.atJdn? today <;> cases o.json <;> rfl

theorem run_cons (o : Options) (today : Int) {args : List String} (hne : args ≠ []) :
    o.run today args =
      match argLines o args with
      | .error true => .panic
      | .error false => .error
      | .ok ls => .ok (if o.json then jsonPatch (jsonStart o.calendar :: ls) else ls) := by
  have he : args.isEmpty = false := by
    cases args with
    | nil => exact absurd rfl hne
    | cons _ _ => rfl
  have hf := foldl_spec o args []
  unfold Options.run
  simp only [he, Bool.false_eq_true, if_false, hf, List.nil_append]
  cases argLines o args with
  | error e => cases e <;> rfl
  | ok ls => cases o.json <;> rfl

theorem argLines_cons_ok_iff (o : Options) (a : String) (as ls : List String) :
    argLines o (a :: as) = .ok ls ↔
      ∃ l ls', argLine o a = .ok l ∧ argLines o as = .ok ls' ∧ ls = l :: ls' := by
  rw [argLines]
  cases argLine o a with
  | error e => exact ⟨nofun, fun ⟨_, _, h, _⟩ => nomatch h⟩
  | ok l =>
    cases argLines o as with
    | error e => exact ⟨nofun, fun ⟨_, _, _, h, _⟩ => nomatch h⟩
    | ok ls' =>
      exact ⟨fun h => ⟨l, ls', rfl, rfl, by cases h; rfl⟩,
        fun ⟨_, _, h1, h2, h3⟩ => by cases h1; cases h2; rw [h3]⟩

theorem argLines_ok_iff (o : Options) (args ls : List String) :
    argLines o args = .ok ls ↔
      ls.length = args.length
      ∧ ∀ i (h : i < args.length) (h' : i < ls.length), argLine o args[i] = .ok ls[i] := by
  induction args generalizing ls with
  | nil =>
    cases ls with
    | nil => exact ⟨fun _ => ⟨rfl, fun i h => absurd h (Nat.not_lt_zero i)⟩, fun _ => rfl⟩
    | cons l ls => exact ⟨nofun, fun h => nomatch h.1⟩
  | cons a as ih =>
    rw [argLines_cons_ok_iff]
    constructor
    · rintro ⟨l, ls', ha, hr, rfl⟩
      obtain ⟨h1, h2⟩ := (ih ls').mp hr
      refine ⟨congrArg (· + 1) h1, fun i h h' => ?_⟩
      cases i with
      | zero => exact ha
      | succ i => exact h2 i (Nat.lt_of_succ_lt_succ h) (Nat.lt_of_succ_lt_succ h')
    · rintro ⟨hl, hall⟩
      cases ls with
      | nil => cases hl
      | cons l ls' =>
        exact ⟨l, ls', hall 0 (Nat.zero_lt_succ _) (Nat.zero_lt_succ _),
          (ih ls').mpr ⟨Nat.succ.inj hl, fun i h h' =>
            hall (i + 1) (Nat.succ_lt_succ h) (Nat.succ_lt_succ h')⟩, rfl⟩

theorem argLines_length (o : Options) (args ls : List String) (h : argLines o args = .ok ls) :
    ls.length = args.length :=
  ((argLines_ok_iff o args ls).mp h).1

theorem argLines_error_mem (o : Options) (args : List String) (e : Bool)
    (h : argLines o args = .error e) : ∃ a ∈ args, argLine o a = .error e := by
  induction args with
  | nil => cases h
  | cons a as ih =>
    rw [argLines] at h
    cases ha : argLine o a with
    | error e' => rw [ha] at h; cases h; exact ⟨a, List.mem_cons_self, ha⟩
    | ok l =>
      rw [ha] at h
      cases hr : argLines o as with
      | error e' =>
        rw [hr] at h; cases h
        obtain ⟨x, hx, hxe⟩ := ih hr
        exact ⟨x, List.mem_cons_of_mem _ hx, hxe⟩
      | ok ls => rw [hr] at h; cases h

theorem argLines_error_of_mem (o : Options) (args : List String) (a : String) (ha : a ∈ args)
    (e : Bool) (he : argLine o a = .error e) : ∃ e', argLines o args = .error e' := by
  cases h : argLines o args with
  | error e' => exact ⟨e', rfl⟩
  | ok ls =>
    obtain ⟨hl, hall⟩ := (argLines_ok_iff o args ls).mp h
    obtain ⟨i, hi, rfl⟩ := List.getElem_of_mem ha
    rw [hall i hi (hl ▸ hi)] at he; cases he

theorem argLine_no_panic (o : Options) (hwf : WF o.calendar) (a : String) :
    argLine o a ≠ .error true := by
  simp only [argLine]
  cases o.parseArg a with
  | none => intro h; cases h
  | some x =>
    cases x with
    | date d => intro h; cases h
    | jdn j =>
      obtain ⟨d, hd, _⟩ := atJdn_total o.calendar hwf j
      simp only [Options.jdnToDate, hd]
      intro h; cases h

theorem argLines_no_panic (o : Options) (hwf : WF o.calendar) (args : List String) :
    argLines o args ≠ .error true := fun h =>
  let ⟨a, _, ha⟩ := argLines_error_mem o args true h
  argLine_no_panic o hwf a ha

theorem run_no_panic (o : Options) (hwf : WF o.calendar) (today : Int) (args : List String) :
    o.run today args ≠ .panic := by
  cases args with
  | nil =>
    obtain ⟨d, hd, _⟩ := atJdn_total o.calendar hwf today
    rw [run_nil, hd]; intro h; cases h
  | cons a as =>
    rw [run_cons o today (List.cons_ne_nil a as)]
    cases h : argLines o (a :: as) with
    | ok ls => intro h; cases h
    | error e =>
      cases e
      · intro h; cases h
      · exact absurd h (argLines_no_panic o hwf _)

end Cli
end JV
