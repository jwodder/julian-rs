/-
Lemmas/GenTime.lean — the generated `system2jdn` (Model/GenLib.lean) is the checked model's, and the generated
`Calendar::now` is the generated `at_system_time` of the clock's reading (which `Props/C14.lean` ties to the model).  A `SystemTime` is what `duration_since(UNIX_EPOCH)` reveals of it: which side of
the epoch it is on, whole seconds (a `u64`), nanoseconds.
-/
import JulianVerif.Lemmas.GenLib
namespace JV.Gen

theorem system2jdnG_eq (before : Bool) (secs nanos : Int) (hs : 0 ≤ secs) :
    system2jdnG (before, secs, nanos) = Chk.system2jdn before secs nanos := by
  unfold system2jdnG Chk.system2jdn
  extract_lets k1
  -- `k1` is `unix2jdn` on whatever fitted `i64`
  have hk : ∀ t, InI64 t → k1 (some t) = Chk.unix2jdn t := fun t ht => by
    simp only [k1, unix2jdn_eq t ht, pure]
  by_cases hbig : secs > 9223372036854775807
  · have h2 : ¬ secs ≤ 9223372036854775807 := by omega
    cases before <;> simp only [hbig, h2, k1, decide_false, Bool.and_false, Bool.false_eq_true, if_true, if_false, pure]
  · have h1 : secs ≤ 9223372036854775807 := by omega
    have h0 : (-9223372036854775808 : Int) ≤ secs := by omega
    have hn : Chk.i64 (-secs) = some (-secs) := Chk.i64_eq_some (by omega)
    have hm : Chk.i64 (-secs - 1) = some (-secs - 1) := Chk.i64_eq_some (by omega)
    cases before <;> simp only [hbig, h1, h0, hn, hm, decide_true, Bool.and_self, Bool.false_eq_true, if_true, if_false,
      bind, pure, Option.bind_some, decide_eq_true_eq]
    · exact hk secs ⟨h0, h1⟩
    · rw [hk _ ⟨by omega, by omega⟩, hk _ ⟨by omega, by omega⟩]

theorem calendarNow_eq (c : Calendar) (clock : Bool × Int × Int) :
    calendarNow c clock = calendarAtSystemTime c clock := rfl

end JV.Gen
