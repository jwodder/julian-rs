/-
Lemmas/Ranges.lean — the boolean 32-bit range test `inI32` against the predicate `InI32`.
-/
import JulianVerif.Model.Basic
namespace JV

theorem inI32_iff (x : Int) : inI32 x = true ↔ InI32 x := by
  simp [inI32, InI32]

theorem inI32_eq_false_iff (x : Int) : inI32 x = false ↔ ¬ InI32 x := by
  rw [← inI32_iff, Bool.not_eq_true]

end JV
