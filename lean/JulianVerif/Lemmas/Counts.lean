/-
Lemmas/Counts.lean — what follows for every calendar whose years tile and whose dates are
accepted back (`Accepting`): ordinals are gap-free counts (C04), the year length is the number
of days of the year (C08), labels increase strictly with the day number (C11); and, with proper
month shapes (`Shaped`), a month's shape describes exactly the dates that fall in it (C07, C09).
-/
import JulianVerif.Lemmas.Accept
namespace JV

namespace Accepting
variable {c : Calendar} (A : Accepting c)

include A in
theorem year_block (y : Int) (hl : A.Live y) (j : Int) (d : Date) (h : c.atJdn? j = some d) :
    d.year = y ↔ (A.F y ≤ j ∧ j < A.F y + c.yearLength y) := by
  obtain ⟨_, _, hl0, ho, ho1, ho2⟩ := A.block_of h
  constructor
  · intro e; subst e; constructor <;> omega
  · intro ⟨h1, h2⟩
    exact A.toYearTiling.block_unique d.year y j hl0 hl (by omega) (by omega) h1 h2

include A in
theorem year_dead (y : Int) (hl : ¬ A.Live y) :
    c.yearLength y = 0 ∧ ∀ j d, c.atJdn? j = some d → d.year ≠ y := by
  constructor
  · have := A.yearLength_nonneg y
    by_cases h : 0 < c.yearLength y
    · exact absurd (A.live_of_len y h) hl
    · omega
  · intro j d h e
    exact hl (e ▸ (A.block_of h).2.2.1)

include A in
/-- C04: the day-of-year is one plus the number of earlier days of the same year: with
`f` the first day of the year, every day `f..j` is in the year, day `f-1` is not, and the
ordinal is `j - f + 1` -/
theorem ordinal_counts (j : Int) (d : Date) (h : c.atJdn? j = some d) :
    ∃ f, f ≤ j ∧ d.ordinal = j - f + 1
      ∧ (∀ k d', f ≤ k → k ≤ j → c.atJdn? k = some d' → d'.year = d.year)
      ∧ (∀ d', c.atJdn? (f - 1) = some d' → d'.year ≠ d.year) := by
  obtain ⟨_, _, hl0, ho, ho1, ho2⟩ := A.block_of h
  refine ⟨A.F d.year, by omega, ho, ?_, ?_⟩
  · intro k d' h1 h2 hk
    exact (A.year_block d.year hl0 k d' hk).mpr ⟨h1, by omega⟩
  · intro d' hk e
    have := (A.year_block d.year hl0 _ d' hk).mp e
    omega

include A in
theorem last_of_year (j : Int) (d d' : Date) (h : c.atJdn? j = some d)
    (h' : c.atJdn? (j + 1) = some d') : d'.year ≠ d.year ↔ d.ordinal = c.yearLength d.year := by
  obtain ⟨_, _, hl0, ho, ho1, ho2⟩ := A.block_of h
  have hb := A.year_block d.year hl0 (j + 1) d' h'
  constructor
  · intro hne
    by_cases e : d.ordinal = c.yearLength d.year
    · exact e
    · exfalso; apply hne; apply hb.mpr; constructor <;> omega
  · intro e hy
    have := hb.mp hy
    omega

include A in
/-- C04: the in-month ordinal is one plus the number of earlier days of the same month:
with `f` the first day of the month, every day `f..j` is in the same year and month, day
`f-1` is not, and the in-month ordinal is `j - f + 1` -/
theorem dayOrdinal_counts (j : Int) (d : Date) (h : c.atJdn? j = some d) :
    ∃ f, f ≤ j ∧ d.dayOrdinal = j - f + 1
      ∧ (∀ k d', f ≤ k → k ≤ j → c.atJdn? k = some d' → d'.year = d.year ∧ d'.month = d.month)
      ∧ (∀ d', c.atJdn? (f - 1) = some d' → ¬ (d'.year = d.year ∧ d'.month = d.month)) := by
  obtain ⟨s, hs, hn, hk1, _, hj⟩ := A.coords h
  have hv := A.shape_valid hs
  have hk2 := ((s.nthDay_some_iff hv _ (by omega)).mp ⟨_, hn⟩).2
  refine ⟨j - d.dayOrdinal + 1, by omega, by omega, ?_, ?_⟩
  · -- day `k` of the range is the `(k - f + 1)`-th day of the same month
    intro k d' h1 h2 hk
    obtain ⟨x, hx⟩ := (s.nthDay_some_iff hv (k - (j - d.dayOrdinal)) (by omega)).mpr ⟨by omega, by omega⟩
    have hd := A.date_at hs (by omega) hx
    rw [show A.F d.year + prefixSum (c.lenOf d.year) d.month + (k - (j - d.dayOrdinal)) - 1 = k by omega,
      hk] at hd
    cases hd; exact ⟨rfl, rfl⟩
  · -- a day of that month has in-month ordinal ≥ 1, so it is not day `f - 1`
    rintro d' hk ⟨ey, em⟩
    obtain ⟨_, _, _, hk1', _, hj'⟩ := A.coords hk
    rw [ey, em] at hj'; omega

include A in
theorem year_ordinal_mono (j j' : Int) (hlt : j < j') (d d' : Date)
    (h : c.atJdn? j = some d) (h' : c.atJdn? j' = some d') :
    d.year < d'.year ∨ (d.year = d'.year ∧ d.ordinal < d'.ordinal) := by
  obtain ⟨_, _, hl, ho, ho1, ho2⟩ := A.block_of h
  obtain ⟨_, _, hl', ho', ho1', ho2'⟩ := A.block_of h'
  rcases Int.lt_trichotomy d.year d'.year with a | a | a
  · exact Or.inl a
  · refine Or.inr ⟨a, ?_⟩; rw [a] at ho; omega
  · have := A.mono d'.year d.year hl' hl a; omega

include A in
theorem label_mono (j j' : Int) (hlt : j < j') (d d' : Date)
    (h : c.atJdn? j = some d) (h' : c.atJdn? j' = some d') :
    d.year < d'.year ∨ (d.year = d'.year ∧ (d.month.number < d'.month.number
        ∨ (d.month = d'.month ∧ d.day < d'.day))) := by
  rcases A.year_ordinal_mono j j' hlt d d' h h' with a | ⟨ey, _⟩
  · exact Or.inl a
  · refine Or.inr ⟨ey, ?_⟩
    -- in the common year the day numbers are the months before plus the in-month ordinals
    obtain ⟨s, hs, hn, hk1, _, hj⟩ := A.coords h
    obtain ⟨s', hs', hn', _, _, hj'⟩ := A.coords h'
    rw [← ey] at hs' hj'
    have hk2' := ((s'.nthDay_some_iff (A.shape_valid hs') _ (by omega)).mp ⟨_, hn'⟩).2
    have hLm' := Calendar.lenOf_of_some hs'
    rcases Int.lt_trichotomy d.month.number d'.month.number with a | a | a
    · exact Or.inl a
    · have em := Month.number_inj _ _ a
      rw [← em, hs] at hs'; cases hs'
      rw [← em] at hj'
      exact Or.inr ⟨em, s.nthDay_strictMono (A.shape_valid hs) hk1 (by omega) hn hn'⟩
    · have := prefixSum_mono _ (c.lenOf_nonneg d.year (A.valid d.year)) d'.month d.month a
      omega

include A in
theorem label_injective {j j' : Int} {d d' : Date} (h : c.atJdn? j = some d) (h' : c.atJdn? j' = some d')
    (hl : d.year = d'.year ∧ d.month = d'.month ∧ d.day = d'.day) : j = j' := by
  rcases Int.lt_trichotomy j j' with a | a | a
  · have := A.label_mono j j' a d d' h h'; rw [hl.1, hl.2.1, hl.2.2] at this; omega
  · exact a
  · have := A.label_mono j' j a d' d h' h; rw [hl.1, hl.2.1, hl.2.2] at this; omega

end Accepting

structure Shaped (c : Calendar) extends Accepting c where
  proper : ∀ y m s, c.monthIShape y m = some s → s.Proper

namespace Shaped
variable {c : Calendar} (S : Shaped c)

include S in
theorem month_days (y : Int) (m : Month) (dd : Int) :
    (∃ j d, c.atJdn? j = some d ∧ d.year = y ∧ d.month = m ∧ d.day = dd)
      ↔ (∃ s, c.monthIShape y m = some s ∧ s.contains dd = true) := by
  constructor
  · rintro ⟨j, d, h, rfl, rfl, rfl⟩
    obtain ⟨s, hs, hn, hk, _⟩ := S.toAccepting.coords h
    exact ⟨s, hs, (s.contains_iff (S.shape_valid hs) _).mpr ⟨_, hk, hn⟩⟩
  · rintro ⟨s, hs, hc⟩
    obtain ⟨k, hk, hn⟩ := (s.contains_iff (S.shape_valid hs) dd).mp hc
    exact ⟨_, _, S.toAccepting.date_at hs hk hn, rfl, rfl, rfl⟩

include S in
theorem month_none_iff (y : Int) (m : Month) :
    c.monthIShape y m = none ↔ ¬ ∃ j d, c.atJdn? j = some d ∧ d.year = y ∧ d.month = m := by
  constructor
  · rintro hn ⟨j, d, h, rfl, rfl⟩
    obtain ⟨s, hs, _⟩ := S.toAccepting.coords h
    rw [hn] at hs; cases hs
  · intro hno
    cases hs : c.monthIShape y m with
    | none => rfl
    | some s =>
      have hp := S.proper y m s hs
      exact absurd ⟨_, _, S.toAccepting.date_at hs (Int.le_refl 1) (s.first_last hp).1, rfl, rfl⟩ hno

end Shaped

end JV
