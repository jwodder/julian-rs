/-
Lemmas/GenLib.lean — each definition bin/libgen generates from lib.rs, inner.rs and iter.rs, the `Display`,
`FromStr` and `TryFrom` impls included (Model/GenLib.lean), is the hand-written one: `Gen.f = f` where
nothing can fault, `Gen.f args = Chk.f args` (Model/Checked.lean) where there is machine arithmetic.  What goes through `cmp_year` / `cmp_year_month` needs the
`debug_assert!`s of `cmp_int_range` / `cmp_ym_range` not to fire: hypothesis `GapOrdered`.
-/
import JulianVerif.Model.GenLib
import JulianVerif.Model.Checked
import JulianVerif.Lemmas.CheckedKernels
namespace JV.Gen

/-! bin/libgen writes `if !c then a else b` as `if c then b else a`, a short-circuit `&&` one of whose
operands can fault as two nested `if`s, and a value computed in two branches and used after them as a
continuation applied in both (`Chk.ite_bind`).  Rewriting with these (and the monad laws of `Option`) turns
a generated body into the hand-written one. -/

theorem ite_bnot {α : Type} (b : Bool) (x y : α) :
    (if (!b) = true then x else y) = if b = true then y else x := by cases b <;> rfl

theorem ite_band {α : Type} (a b : Bool) (x y : α) :
    (if (a && b) = true then x else y) = if a = true then if b = true then x else y else y := by
  cases a <;> rfl

@[simp] theorem opt_eta {α : Type} (a : Option α) :
    (match a with | some j => some j | none => none) = a := by cases a <;> rfl

theorem isJulianLeapYear_eq : isJulianLeapYear = JV.isJulianLeapYear := rfl
theorem isGregorianLeapYear_eq : isGregorianLeapYear = JV.isGregorianLeapYear := rfl

theorem monthDiscriminant_eq (m : Month) : monthDiscriminant m = m.number := by cases m <;> rfl
theorem monthNumber_eq (m : Month) : monthNumber m = m.number := monthDiscriminant_eq m
theorem monthEq_eq (a b : Month) : monthEq a b = (a == b) := by
  simp only [monthEq, monthDiscriminant_eq, Month.beq_eq_decide]; rfl
theorem monthLt_eq (a b : Month) : monthLt a b = a.lt b := by
  simp only [monthLt, Month.lt, monthDiscriminant_eq]
theorem monthLe_eq (a b : Month) : monthLe a b = a.le b := by
  simp only [monthLe, Month.le, monthDiscriminant_eq]
theorem monthPred_eq (m : Month) : monthPred m = m.pred := by cases m <;> rfl
theorem monthSucc_eq (m : Month) : monthSucc m = m.succ := by cases m <;> rfl
theorem weekdayNumber_eq (w : Weekday) : weekdayNumber w = w.number := by cases w <;> rfl
theorem weekdayPred_eq (w : Weekday) : weekdayPred w = w.pred := by cases w <;> rfl
theorem weekdaySucc_eq (w : Weekday) : weekdaySucc w = w.succ := by cases w <;> rfl
theorem weekdayTryFromConst_eq : weekdayTryFromConst = Weekday.ofInt? := rfl
theorem yearKindIsCommon_eq (k : YearKind) : yearKindIsCommon k = k.isCommon := by cases k <;> rfl
theorem yearKindIsLeap_eq (k : YearKind) : yearKindIsLeap k = k.isLeap := by cases k <;> rfl
theorem yearKindIsReform_eq (k : YearKind) : yearKindIsReform k = k.isReform := by cases k <;> rfl
theorem yearKindIsSkipped_eq (k : YearKind) : yearKindIsSkipped k = k.isSkipped := by cases k <;> rfl

theorem calendarGap_eq (c : Calendar) : calendarGap c = c.gap := by cases c <;> rfl
theorem calendarIsProleptic_eq (c : Calendar) : calendarIsProleptic c = c.isProleptic := by cases c <;> rfl
theorem calendarIsReforming_eq (c : Calendar) : calendarIsReforming c = c.isReforming := by cases c <;> rfl
theorem calendarReformation_eq (c : Calendar) : calendarReformation c = c.reformation := by cases c <;> rfl

theorem calendarJULIAN_eq : calendarJULIAN = .julian := rfl
theorem calendarGREGORIAN_eq : calendarGREGORIAN = .gregorian := rfl
theorem calendarREFORM1582_eq : calendarREFORM1582 = Calendar.reform1582 := rfl

theorem monthShapeContains_eq (s : MonthShape) (d : Int) : monthShapeContains s d = s.contains d := by
  rcases s with ⟨c, y, m, i⟩; cases i <;> rfl
theorem monthShapeFirstDay_eq (s : MonthShape) : monthShapeFirstDay s = s.firstDay := by
  rcases s with ⟨c, y, m, i⟩; cases i <;> rfl
theorem monthShapeLastDay_eq (s : MonthShape) : monthShapeLastDay s = s.lastDay := by
  rcases s with ⟨c, y, m, i⟩; cases i <;> rfl
theorem monthShapeKind_eq (s : MonthShape) : monthShapeKind s = s.kind := by
  rcases s with ⟨c, y, m, i⟩; cases i <;> rfl

theorem dateIsJulian_eq (d : Date) : dateIsJulian d = d.isJulian := by
  rcases d with ⟨c, _, _, _, _, _, _⟩; cases c <;> rfl
theorem dateIsGregorian_eq (d : Date) : dateIsGregorian d = d.isGregorian := by
  rcases d with ⟨c, _, _, _, _, _, _⟩; cases c <;> rfl

theorem monthShapeLen_eq (s : MonthShape) : monthShapeLen s = Chk.len s.inner := by
  rcases s with ⟨c, y, m, i⟩; cases i <;> rfl

theorem monthShapeNthDay_eq (s : MonthShape) (n : Int) : monthShapeNthDay s n = Chk.nthDay s.inner n := by
  rcases s with ⟨c, y, m, i⟩
  cases i <;> simp only [monthShapeNthDay, Chk.nthDay, pure, apply_ite some, decide_eq_true_eq]

/-- `MonthShape::gap` returns a `RangeInclusive`; the hand-written model gives its two ends -/
theorem monthShapeGap_eq (s : MonthShape) :
    monthShapeGap s = (Chk.gap s.inner).map (Option.map fun p => RangeIncl.new p.1 p.2) := by
  rcases s with ⟨c, y, m, i⟩
  cases i <;> first | rfl | (simp only [monthShapeGap, Chk.gap, bind, pure]; cases Chk.u32 _ <;> rfl)

theorem monthShapeDayOrdinalErr_eq (s : MonthShape) (d : Int) :
    monthShapeDayOrdinalErr s d = Chk.dayOrdinalErr s.inner s.year s.month d := by
  rcases s with ⟨c, y, m, i⟩
  cases i <;> simp only [monthShapeDayOrdinalErr, Chk.dayOrdinalErr, pure, bind, ite_band, decide_eq_true_eq]

/-- the last Julian (year, month) is not after the first Gregorian one — what
`ReformGap::cmp_year` / `cmp_year_month` assume -/
def GapOrdered (c : Calendar) : Prop :=
  ∀ g, c.gap = some g →
    ymKey g.preReform.year g.preReform.month ≤ ymKey g.postReform.year g.postReform.month

theorem GapOrdered.year {r : Int} {g : ReformGap} (h : GapOrdered (.reforming r g)) :
    g.preReform.year ≤ g.postReform.year :=
  Int.not_lt.mp fun hlt => Int.not_lt.mpr (h g rfl) (ymKey_lt.mpr (.inl hlt))

theorem reformGapCmpYear_eq (g : ReformGap) (y : Int) (h : g.preReform.year ≤ g.postReform.year) :
    reformGapCmpYear g y = some (g.cmpYear y) := Chk.cmpIntRange_eq _ h

theorem reformGapCmpYearMonth_eq (g : ReformGap) (y : Int) (m : Month)
    (h : ymKey g.preReform.year g.preReform.month ≤ ymKey g.postReform.year g.postReform.month) :
    reformGapCmpYearMonth g y m = some (g.cmpYearMonth y m) := Chk.cmpYmRange_eq _ _ h

theorem calendarYearKind_eq (c : Calendar) (h : GapOrdered c) (y : Int) :
    calendarYearKind c y = some (c.yearKind y) := by
  cases c with
  | julian => rfl
  | gregorian => rfl
  | reforming r g =>
    simp only [calendarYearKind, Calendar.yearKind, reformGapCmpYear_eq g y h.year, bind, pure,
      Option.bind_some, isJulianLeapYear_eq, isGregorianLeapYear_eq, monthLt_eq, monthLe_eq]
    rcases g with ⟨⟨py, po, pm, pd⟩, ⟨qy, qo, qm, qd⟩, k, gs, gg⟩
    -- arm by arm the two agree, up to `matches!((month, day), (M, D))` for the model's
    -- `month == M && day == D`: decided by the month, and in month `M` by whether `day = D`
    cases ReformGap.cmpYear _ y <;> try rfl
    · cases pm <;> try rfl
      · by_cases hd : pd = 29 <;> simp [hd] <;> rfl
      · by_cases hd : pd = 31 <;> simp [hd] <;> rfl
    · cases pm <;> try rfl
      by_cases hd : pd = 29 <;> simp [hd] <;> rfl
    · cases qm <;> try rfl
      by_cases hd : qd = 1 <;> simp [hd] <;> rfl

theorem calendarYearLength_eq (c : Calendar) (h : GapOrdered c) (y : Int) :
    calendarYearLength c y = Chk.yearLength c y := by
  cases c <;> simp only [calendarYearLength, Chk.yearLength, calendarYearKind_eq _ h, bind, Option.bind_some] <;>
    cases Calendar.yearKind _ y <;> rfl

/-- the generated `month_shape` builds the `MonthShape` record around the inner shape of the
hand-written checked model -/
theorem calendarMonthShape_eq (c : Calendar) (h : GapOrdered c) (y : Int) (m : Month) :
    calendarMonthShape c y m
      = (Chk.monthIShape c y m).map (Option.map fun i => (⟨c, y, m, i⟩ : MonthShape)) := by
  unfold calendarMonthShape Chk.monthIShape
  -- generated: `match month` hands a length to the continuation `k2`; hand-written: `len` is
  -- `naturalLength` and the rest follows.  So go through `k2 len`.
  extract_lets k1 k2 len
  refine Eq.trans (b := k2 len) ?_ ?_
  · clear_value k2
    cases m <;> try rfl
    simp only [calendarYearKind_eq c h, yearKindIsLeap_eq, bind, Option.bind_some, len,
      Calendar.naturalLength, calendarGap_eq, isJulianLeapYear_eq, apply_ite k2]
    cases c with
    | reforming r g =>
      simp only [Calendar.gap, reformGapCmpYearMonth_eq g y .february (h g rfl), Option.bind_some, apply_ite k2]
      cases g.cmpYearMonth y .february <;> rfl
    | _ => rfl
  · clear_value len
    cases c with
    | reforming r g =>
      simp only [k2, k1, calendarGap, Calendar.gap, reformGapCmpYearMonth_eq g y m (h g rfl), bind, pure,
        Option.bind_some]
      cases g.cmpYearMonth y m <;> try rfl
      case eqUpper =>
        by_cases hq : g.postReform.day > 1 <;> simp only [hq, decide_true, decide_false, if_true, if_false] <;> rfl
      all_goals
        cases g.kind
        case intraMonth => cases Chk.u32 (g.preReform.day + 1) <;> cases Chk.u32 (g.postReform.day - 1) <;> rfl
        all_goals cases g.preReform.day == len <;> rfl
    | _ => rfl

theorem calendarGetDayOrdinal_eq (c : Calendar) (h : GapOrdered c) (y : Int) (m : Month) (d : Int) :
    calendarGetDayOrdinal c y m d = Chk.getDayOrdinal c y m d := by
  simp only [calendarGetDayOrdinal, Chk.getDayOrdinal, calendarMonthShape_eq c h, monthShapeDayOrdinalErr_eq, bind,
    pure]
  rcases Chk.monthIShape c y m with _ | _ | i <;> first | rfl | exact Option.bind_fun_some _

theorem calendarOrdinal2ymddoLoop_eq (c : Calendar) (h : GapOrdered c) (y : Int) (ms : List Month) (days : Int) :
    calendarOrdinal2ymddoLoop c y ms days = (Chk.ordinal2ymddoLoop c y ms days).map .ok := by
  induction ms generalizing days with
  | nil => rfl
  | cons m ms ih =>
    simp only [calendarOrdinal2ymddoLoop, Chk.ordinal2ymddoLoop, calendarMonthShape_eq c h, monthShapeNthDay_eq,
      monthShapeLen_eq, ih, bind, pure]
    rcases Chk.monthIShape c y m with _ | _ | i <;> try rfl
    simp only [Option.map, Option.bind]
    rcases Chk.nthDay i days with _ | _ | d <;> try rfl
    simp only []
    cases Chk.len i <;> try rfl
    simp only []
    cases Chk.u32 _ <;> rfl

theorem calendarOrdinal2ymddo_eq (c : Calendar) (h : GapOrdered c) (y o : Int) :
    calendarOrdinal2ymddo c y o = Chk.ordinal2ymddo c y o := by
  simp only [calendarOrdinal2ymddo, Chk.ordinal2ymddo, calendarYearLength_eq c h, calendarOrdinal2ymddoLoop_eq c h,
    bind, pure, Month.all]
  cases Chk.yearLength c y <;> try rfl
  simp only [Option.bind_some]
  cases Chk.ordinal2ymddoLoop c y _ o <;> rfl

theorem calendarYmdo2ordinalLoop_eq (c : Calendar) (h : GapOrdered c) (y : Int) (m : Month) (k : Int)
    (ms : List Month) (acc : Int) :
    calendarYmdo2ordinalLoop c y m k ms acc = Chk.ymdo2ordinalLoop c y m k ms acc := by
  induction ms generalizing acc with
  | nil => rfl
  | cons m' ms ih =>
    simp only [calendarYmdo2ordinalLoop, Chk.ymdo2ordinalLoop, calendarMonthShape_eq c h, monthEq_eq, monthShapeLen_eq,
      ih, bind]
    by_cases hm : (m' == m) = true <;> simp only [hm, if_true] <;> try rfl
    rcases Chk.monthIShape c y m' with _ | _ | i <;> rfl

theorem calendarYmdo2ordinal_eq (c : Calendar) (h : GapOrdered c) (y : Int) (m : Month) (k : Int) :
    calendarYmdo2ordinal c y m k = Chk.ymdo2ordinal c y m k := calendarYmdo2ordinalLoop_eq c h y m k _ 0

theorem calendarGetJdn_eq (c : Calendar) (y o : Int) : calendarGetJdn c y o = Chk.getJdn c y o := by
  unfold calendarGetJdn
  extract_lets k1 k2
  -- `k1` is `Ok(match r { Some(jdn) => Some(jdn), None => None })`
  have hk : k1 = some := funext fun v => by cases v <;> rfl
  clear_value k1; subst hk
  cases c <;>
    simp only [k2, Chk.getJdn, calendarGap, Calendar.gap, bind, pure, Option.bind_fun_some, Option.bind_some,
      Bool.false_or, Bool.or_false, if_true, Bool.false_eq_true, if_false]

theorem calendarAtYmd_eq (c : Calendar) (h : GapOrdered c) (y : Int) (m : Month) (d : Int) :
    calendarAtYmd c y m d = Chk.atYmd c y m d := by
  simp only [calendarAtYmd, Chk.atYmd, calendarGetDayOrdinal_eq c h, calendarYmdo2ordinal_eq c h,
    calendarGetJdn_eq, bind, pure]
  rcases Chk.getDayOrdinal c y m d with _ | e | k <;> try rfl
  simp only [Option.bind_some]
  cases Chk.ymdo2ordinal c y m k <;> try rfl
  simp only [Option.bind_some]
  rcases Chk.getJdn c y _ with _ | _ | j <;> rfl

theorem calendarAtOrdinalDate_eq (c : Calendar) (h : GapOrdered c) (y o : Int) :
    calendarAtOrdinalDate c y o = Chk.atOrdinalDate c y o := by
  simp only [calendarAtOrdinalDate, Chk.atOrdinalDate, calendarOrdinal2ymddo_eq c h, calendarGetJdn_eq, bind, pure]
  rcases Chk.ordinal2ymddo c y o with _ | e | ⟨m, d, k⟩ <;> try rfl
  simp only [Option.bind_some]
  rcases Chk.getJdn c y o with _ | _ | j <;> rfl

theorem calendarAtJdn_eq (c : Calendar) (h : GapOrdered c) (j : Int) : calendarAtJdn c j = Chk.atJdn c j := by
  cases c with
  | reforming r g =>
    -- both run the same continuation on `if j < r then jdn2julian j else jdn2gregorian j`
    simp only [calendarAtJdn, Chk.atJdn, Chk.jdnYearOrdinal, calendarGap, Calendar.gap,
      calendarOrdinal2ymddo_eq _ h, bind, pure, Bool.false_or, ← Chk.ite_bind]
    generalize (if decide (j < r) = true then Chk.jdn2julian j else Chk.jdn2gregorian j) = x
    rcases x with _ | ⟨yy, oo⟩ <;> try rfl
    simp only [Option.bind_some]
    by_cases hc : (yy == g.postReform.year && decide (oo > g.ordinalGapStart)) = true <;>
      simp only [hc, Bool.false_eq_true, if_true, if_false, Option.bind_some]
    · rcases Chk.u32 (oo - g.ordinalGap) with _ | o2 <;> try rfl
      simp only [Option.bind_some]
      rcases Chk.ordinal2ymddo _ yy o2 with _ | e | ⟨m, d, k⟩ <;> rfl
    · rcases Chk.ordinal2ymddo _ yy oo with _ | e | ⟨m, d, k⟩ <;> rfl
  | _ =>
    simp only [calendarAtJdn, Chk.atJdn, Chk.jdnYearOrdinal, calendarGap, Calendar.gap,
      calendarOrdinal2ymddo_eq _ h, bind, pure, Bool.or_false, Bool.false_eq_true, if_true, if_false,
      Option.bind_assoc, Option.bind_some]
    refine Option.bind_congr fun p _ => Option.bind_congr fun t _ => ?_
    rcases t with e | ⟨m, d, k⟩ <;> rfl

theorem calendarNextYearAfter_eq (c : Calendar) (y : Int) : calendarNextYearAfter c y = Chk.nextYearAfter c y := by
  cases c <;> rfl

theorem calendarPrevYearBefore_eq (c : Calendar) (y : Int) : calendarPrevYearBefore c y = Chk.prevYearBefore c y := by
  cases c <;> rfl

theorem calendarLastJulianDate_eq (c : Calendar) : calendarLastJulianDate c = Chk.lastJulianDate c := by
  cases c <;> rfl

theorem calendarFirstGregorianDate_eq (c : Calendar) : calendarFirstGregorianDate c = Chk.firstGregorianDate c := by
  cases c with
  | reforming r g => simp only [calendarFirstGregorianDate, Chk.firstGregorianDate]; cases g.kind <;> rfl
  | _ => rfl

theorem monthShapeNthDate_eq (s : MonthShape) (h : GapOrdered s.calendar) (n : Int) :
    monthShapeNthDate s n = Chk.nthDate s n := by
  simp only [monthShapeNthDate, Chk.nthDate, monthShapeNthDay_eq, calendarAtYmd_eq _ h, bind, pure]
  rcases Chk.nthDay s.inner n with _ | _ | d <;> rfl

theorem dateDayOrdinal0_eq (d : Date) : dateDayOrdinal0 d = Chk.dayOrdinal0 d := rfl
theorem dateOrdinal0_eq (d : Date) : dateOrdinal0 d = Chk.ordinal0 d := rfl

theorem weekdayForJdn_eq (j : Int) : weekdayForJdn j = Chk.weekdayForJdn j := by
  -- the hand-written model counts `rem_euclid` as an `i32` step of its own; it cannot fail
  have h7 : Chk.i32 (j % 7) = some (j % 7) := Chk.i32_eq_some (by omega)
  simp only [weekdayForJdn, Chk.weekdayForJdn, weekdayTryFromConst_eq, h7, bind, pure, Option.bind_some]
  refine Option.bind_congr fun r _ => ?_
  cases Weekday.ofInt? r <;> rfl

theorem dateWeekday_eq (d : Date) : dateWeekday d = Chk.weekdayForJdn d.jdn := weekdayForJdn_eq d.jdn

theorem dateConvertTo_eq (d : Date) (c : Calendar) (h : GapOrdered c) : dateConvertTo d c = Chk.atJdn c d.jdn := calendarAtJdn_eq c h d.jdn

theorem jdn2unix_eq (j : Int) : jdn2unix j = Chk.jdn2unix j := rfl

theorem dateSucc_eq (d : Date) (h : GapOrdered d.calendar) : dateSucc d = Chk.succ d := by
  simp only [dateSucc, Chk.succ, dateCalendar, calendarOrdinal2ymddo_eq _ h, calendarNextYearAfter_eq, bind, pure,
    Chk.i32, ite_bnot]
  by_cases hi : inI32 (d.jdn + 1) = true <;> simp only [hi, Bool.false_eq_true, if_true, if_false]
  refine Option.bind_congr fun o _ => ?_
  rcases Chk.ordinal2ymddo d.calendar d.year o with _ | e | ⟨m, dd, k⟩ <;> try rfl
  cases e <;> try rfl
  simp only [Option.bind_some]
  refine Option.bind_congr fun y2 _ => ?_
  rcases Chk.ordinal2ymddo d.calendar y2 1 with _ | e | ⟨m, dd, k⟩ <;> rfl

theorem datePred_eq (d : Date) (h : GapOrdered d.calendar) : datePred d = Chk.pred d := by
  simp only [datePred, Chk.pred, dateCalendar, calendarOrdinal2ymddo_eq _ h, calendarPrevYearBefore_eq,
    calendarYearLength_eq _ h, bind, pure, Chk.i32, ite_bnot, Option.bind_some, decide_eq_true_eq]
  by_cases hi : inI32 (d.jdn - 1) = true <;> simp only [hi, Bool.false_eq_true, if_true, if_false]
  by_cases ho : d.ordinal > 1 <;> simp only [ho, if_true, if_false]
  · refine Option.bind_congr fun o _ => ?_
    rcases Chk.ordinal2ymddo d.calendar d.year o with _ | e | ⟨m, dd, k⟩ <;> rfl
  · refine Option.bind_congr fun y2 _ => Option.bind_congr fun l _ => ?_
    rcases Chk.ordinal2ymddo d.calendar y2 l with _ | e | ⟨m, dd, k⟩ <;> rfl

theorem monthNumber0_eq (m : Month) : monthNumber0 m = some m.number0 := by cases m <;> rfl
theorem weekdayNumber0_eq (w : Weekday) : weekdayNumber0 w = some w.number0 := by cases w <;> rfl

theorem monthShapeDayOrdinal_eq (s : MonthShape) (d : Int) :
    monthShapeDayOrdinal s d
      = (Chk.dayOrdinalErr s.inner s.year s.month d).map fun r =>
          match r with
          | .ok o => some o
          | .error _ => none := by
  simp only [monthShapeDayOrdinal, monthShapeDayOrdinalErr_eq, bind, pure]
  rcases Chk.dayOrdinalErr s.inner s.year s.month d with _ | e | o <;> rfl

theorem unix2jdn_eq (t : Int) (ht : InI64 t) : unix2jdn t = Chk.unix2jdn t := by
  -- the hand-written model counts `div_euclid` and `rem_euclid` as `i64` steps; they cannot fail
  have h1 : Chk.i64 (t / 86400) = some (t / 86400) := Chk.i64_eq_some (by have := ht; omega)
  have h2 : Chk.i64 (t % 86400) = some (t % 86400) := Chk.i64_eq_some (by omega)
  simp only [unix2jdn, Chk.unix2jdn, h1, h2, bind, pure, Option.bind_some]

theorem calendarAtUnixTime_eq (c : Calendar) (h : GapOrdered c) (t : Int) (ht : InI64 t) :
    calendarAtUnixTime c t
      = (Chk.unix2jdn t).bind fun r =>
          match r with
          | some (j, s) => (Chk.atJdn c j).map fun d => some (d, s)
          | none => some none := by
  simp only [calendarAtUnixTime, unix2jdn_eq t ht, calendarAtJdn_eq c h, bind, pure]
  refine Option.bind_congr fun r _ => ?_
  rcases r with _ | ⟨j, s⟩
  · rfl
  · show (Chk.atJdn c j).bind _ = (Chk.atJdn c j).map _
    cases Chk.atJdn c j <;> rfl

theorem gapOrdered_julian : GapOrdered .julian := fun _ hg => nomatch hg
theorem gapOrdered_gregorian : GapOrdered .gregorian := fun _ hg => nomatch hg

theorem calendarReforming_eq (r : Int) : calendarReforming r = Chk.mkReforming r := by
  simp only [calendarReforming, Chk.mkReforming, calendarJULIAN_eq, calendarGREGORIAN_eq,
    calendarAtJdn_eq _ gapOrdered_julian, calendarAtJdn_eq _ gapOrdered_gregorian, calendarGetJdn_eq,
    Chk.reformOrdinal, dateOrdinal, dateYear, monthLt_eq, bind, pure, Chk.i32, ite_bnot, Chk.ite_bind,
    Option.bind_some, decide_eq_true_eq, apply_ite some]
  by_cases hi : inI32 (r - 1) = true <;> simp only [hi, Bool.false_eq_true, if_true, if_false]
  -- what is left differs in the order of the arms of `match get_jdn(..)`
  refine Option.bind_congr fun pre _ => Option.bind_congr fun post _ => ite_congr rfl (fun _ => ?_) (fun _ => ?_)
  · exact Option.bind_congr fun o _ => Option.bind_congr fun t _ => by cases t <;> rfl
  · exact Option.bind_congr fun t _ => by cases t <;> rfl

/-! `TryFrom<integer> for Month` / `for Weekday`: twelve impls each, from one macro. -/

theorem monthTryFromI8_eq : monthTryFromI8 = Month.ofInt? := rfl
theorem monthTryFromI16_eq : monthTryFromI16 = Month.ofInt? := rfl
theorem monthTryFromI32_eq : monthTryFromI32 = Month.ofInt? := rfl
theorem monthTryFromI64_eq : monthTryFromI64 = Month.ofInt? := rfl
theorem monthTryFromI128_eq : monthTryFromI128 = Month.ofInt? := rfl
theorem monthTryFromIsize_eq : monthTryFromIsize = Month.ofInt? := rfl
theorem monthTryFromU8_eq : monthTryFromU8 = Month.ofInt? := rfl
theorem monthTryFromU16_eq : monthTryFromU16 = Month.ofInt? := rfl
theorem monthTryFromU32_eq : monthTryFromU32 = Month.ofInt? := rfl
theorem monthTryFromU64_eq : monthTryFromU64 = Month.ofInt? := rfl
theorem monthTryFromU128_eq : monthTryFromU128 = Month.ofInt? := rfl
theorem monthTryFromUsize_eq : monthTryFromUsize = Month.ofInt? := rfl

/-- outside 1..7 there is no weekday, so converting to `Jdnum` first loses nothing -/
theorem weekday_ofInt_none {v : Int} (h : v < 1 ∨ 7 < v) : Weekday.ofInt? v = none := by
  cases hw : Weekday.ofInt? v with
  | none => rfl
  | some w => have := Weekday.ofInt?_eq_some.mp hw; have := w.number_bounds; omega

theorem weekdayTryFrom_aux (v : Int) :
    (if decide ((-2147483648) ≤ v) && decide (v ≤ 2147483647) then some v else none).bind weekdayTryFromConst
      = Weekday.ofInt? v := by
  by_cases h : -2147483648 ≤ v ∧ v ≤ 2147483647
  · simp only [h.1, h.2, decide_true, Bool.and_self, if_true]; rfl
  · rw [weekday_ofInt_none (by omega)]
    simp only [Bool.and_eq_true, decide_eq_true_eq, h, if_false]; rfl

theorem weekdayTryFromI8_eq (v : Int) : weekdayTryFromI8 v = Weekday.ofInt? v := weekdayTryFrom_aux v
theorem weekdayTryFromI16_eq (v : Int) : weekdayTryFromI16 v = Weekday.ofInt? v := weekdayTryFrom_aux v
theorem weekdayTryFromI32_eq (v : Int) : weekdayTryFromI32 v = Weekday.ofInt? v := weekdayTryFrom_aux v
theorem weekdayTryFromI64_eq (v : Int) : weekdayTryFromI64 v = Weekday.ofInt? v := weekdayTryFrom_aux v
theorem weekdayTryFromI128_eq (v : Int) : weekdayTryFromI128 v = Weekday.ofInt? v := weekdayTryFrom_aux v
theorem weekdayTryFromIsize_eq (v : Int) : weekdayTryFromIsize v = Weekday.ofInt? v := weekdayTryFrom_aux v
theorem weekdayTryFromU8_eq (v : Int) : weekdayTryFromU8 v = Weekday.ofInt? v := weekdayTryFrom_aux v
theorem weekdayTryFromU16_eq (v : Int) : weekdayTryFromU16 v = Weekday.ofInt? v := weekdayTryFrom_aux v
theorem weekdayTryFromU32_eq (v : Int) : weekdayTryFromU32 v = Weekday.ofInt? v := weekdayTryFrom_aux v
theorem weekdayTryFromU64_eq (v : Int) : weekdayTryFromU64 v = Weekday.ofInt? v := weekdayTryFrom_aux v
theorem weekdayTryFromU128_eq (v : Int) : weekdayTryFromU128 v = Weekday.ofInt? v := weekdayTryFrom_aux v
theorem weekdayTryFromUsize_eq (v : Int) : weekdayTryFromUsize v = Weekday.ofInt? v := weekdayTryFrom_aux v

theorem monthName_eq (m : Month) : monthName m = m.name := by cases m <;> rfl
theorem monthShortName_eq (m : Month) : monthShortName m = m.shortName := by cases m <;> rfl
theorem weekdayName_eq (w : Weekday) : weekdayName w = w.name := by cases w <;> rfl
theorem weekdayShortName_eq (w : Weekday) : weekdayShortName w = w.shortName := by cases w <;> rfl

theorem monthFmt_eq (m : Month) (alt : Bool) :
    monthFmt m alt = (if alt then m.shortName else m.name).toList := by
  cases alt <;> simp [monthFmt, monthName_eq, monthShortName_eq]

theorem weekdayFmt_eq (w : Weekday) (alt : Bool) :
    weekdayFmt w alt = (if alt then w.shortName else w.name).toList := by
  cases alt <;> simp [weekdayFmt, weekdayName_eq, weekdayShortName_eq]

/-- `impl Display for Date`: `{}` and `{:#}` are the model's `fmtDate` / `fmtDateAlt` -/
theorem dateFmt_eq (d : Date) :
    dateFmt d false = fmtDate d ∧ dateFmt d true = fmtDateAlt d := by
  have hdash : "-".toList = ['-'] := rfl
  -- first of all: a string literal left in the goal is unfolded again by every later attempt to
  -- match `[] ++ _` or `_ :: _` against it
  simp only [dateFmt, hdash]
  simp only [fmtDate, fmtDateAlt, fmtYear, dateYear, dateMonth, dateDay, dateOrdinal, monthNumber_eq,
    padIntRust, Int.toNat_natCast, List.nil_append, Bool.false_eq_true, if_false, if_true]
  by_cases h : d.year < 0 <;>
    simp only [h, decide_true, decide_false, Bool.false_eq_true, if_true, if_false, List.cons_append,
      List.nil_append, List.append_assoc, and_self]

theorem find_cons_if {α : Type} (p : α → Bool) (a : α) (as : List α) :
    (a :: as).find? p = if p a then some a else as.find? p := by
  simp only [List.find?]; cases p a <;> rfl

theorem eqI_congr (x a b : List Char) (h : a.map asciiLower = b.map asciiLower) :
    eqIgnoreAsciiCase x a = eqIgnoreAsciiCase x b := by
  simp only [eqIgnoreAsciiCase, h]

theorem monthFromStr_eq (s : String) : monthFromStr s = Month.fromStr s.toList := by
  simp only [monthFromStr, Month.fromStr, Month.all, find_cons_if, List.find?_nil, Month.name, Month.shortName]
  simp only [eqI_congr s.toList "january".toList "January".toList (by decide),
    eqI_congr s.toList "jan".toList "Jan".toList (by decide),
    eqI_congr s.toList "february".toList "February".toList (by decide),
    eqI_congr s.toList "feb".toList "Feb".toList (by decide),
    eqI_congr s.toList "march".toList "March".toList (by decide),
    eqI_congr s.toList "mar".toList "Mar".toList (by decide),
    eqI_congr s.toList "april".toList "April".toList (by decide),
    eqI_congr s.toList "apr".toList "Apr".toList (by decide),
    eqI_congr s.toList "may".toList "May".toList (by decide),
    eqI_congr s.toList "june".toList "June".toList (by decide),
    eqI_congr s.toList "jun".toList "Jun".toList (by decide),
    eqI_congr s.toList "july".toList "July".toList (by decide),
    eqI_congr s.toList "jul".toList "Jul".toList (by decide),
    eqI_congr s.toList "august".toList "August".toList (by decide),
    eqI_congr s.toList "aug".toList "Aug".toList (by decide),
    eqI_congr s.toList "september".toList "September".toList (by decide),
    eqI_congr s.toList "sep".toList "Sep".toList (by decide),
    eqI_congr s.toList "october".toList "October".toList (by decide),
    eqI_congr s.toList "oct".toList "Oct".toList (by decide),
    eqI_congr s.toList "november".toList "November".toList (by decide),
    eqI_congr s.toList "nov".toList "Nov".toList (by decide),
    eqI_congr s.toList "december".toList "December".toList (by decide),
    eqI_congr s.toList "dec".toList "Dec".toList (by decide), Bool.or_self]

theorem weekdayFromStr_eq (s : String) : weekdayFromStr s = Weekday.fromStr s.toList := by
  simp only [weekdayFromStr, Weekday.fromStr, Weekday.all, List.dropLast, find_cons_if, List.find?_nil, Weekday.name,
    Weekday.shortName]
  simp only [eqI_congr s.toList "sunday".toList "Sunday".toList (by decide),
    eqI_congr s.toList "sun".toList "Sun".toList (by decide),
    eqI_congr s.toList "monday".toList "Monday".toList (by decide),
    eqI_congr s.toList "mon".toList "Mon".toList (by decide),
    eqI_congr s.toList "tuesday".toList "Tuesday".toList (by decide),
    eqI_congr s.toList "tue".toList "Tue".toList (by decide),
    eqI_congr s.toList "wednesday".toList "Wednesday".toList (by decide),
    eqI_congr s.toList "wed".toList "Wed".toList (by decide),
    eqI_congr s.toList "thursday".toList "Thursday".toList (by decide),
    eqI_congr s.toList "thu".toList "Thu".toList (by decide),
    eqI_congr s.toList "friday".toList "Friday".toList (by decide),
    eqI_congr s.toList "fri".toList "Fri".toList (by decide),
    eqI_congr s.toList "saturday".toList "Saturday".toList (by decide),
    eqI_congr s.toList "sat".toList "Sat".toList (by decide)]

theorem calendarCmp_eq (a b : Calendar) : calendarCmp a b = a.cmp b := by
  cases a <;> cases b <;> rfl
theorem calendarEq_eq (a b : Calendar) : calendarEq a b = a.beq b := congrArg (· == Ordering.eq) (calendarCmp_eq a b)
theorem calendarPartialCmp_eq (a b : Calendar) : calendarPartialCmp a b = some (a.cmp b) := congrArg some (calendarCmp_eq a b)
theorem dateCmp_eq (a b : Date) : dateCmp a b = a.cmp b := by
  simp only [dateCmp, Date.cmp, dateJulianDayNumber, dateCalendar, calendarCmp_eq]
  cases compare a.jdn b.jdn <;> rfl
theorem datePartialCmp_eq (a b : Date) : datePartialCmp a b = some (a.cmp b) := congrArg some (dateCmp_eq a b)

theorem daysNew_eq (s : MonthShape) :
    daysNew s = (Chk.len s.inner).map fun l => (⟨s, RangeIncl.new 1 l⟩ : Days) := by
  simp only [daysNew, monthShapeLen_eq, bind, pure]
  cases Chk.len s.inner <;> rfl

theorem monthShapeDays_eq (s : MonthShape) :
    monthShapeDays s = (Chk.len s.inner).map fun l => (⟨s, RangeIncl.new 1 l⟩ : Days) := daysNew_eq s

theorem daysNext_eq (it : Days) :
    daysNext it = (match it.inner.next with
      | (none, r) => some (none, { it with inner := r })
      | (some n, r) => (Chk.nthDay it.shape.inner n).map fun d => (d, { it with inner := r })) := by
  simp only [daysNext, monthShapeNthDay_eq, bind, pure]
  rcases it.inner.next with ⟨_ | n, r⟩
  · rfl
  · simp only []; cases Chk.nthDay it.shape.inner n <;> rfl

theorem daysNextBack_eq (it : Days) :
    daysNextBack it = (match it.inner.nextBack with
      | (none, r) => some (none, { it with inner := r })
      | (some n, r) => (Chk.nthDay it.shape.inner n).map fun d => (d, { it with inner := r })) := by
  simp only [daysNextBack, monthShapeNthDay_eq, bind, pure]
  rcases it.inner.nextBack with ⟨_ | n, r⟩
  · rfl
  · simp only []; cases Chk.nthDay it.shape.inner n <;> rfl

theorem datesNext_eq (it : Dates) (hg : GapOrdered it.shape.calendar) :
    datesNext it = (match it.inner.next with
      | (none, r) => some (none, { it with inner := r })
      | (some n, r) => (Chk.nthDate it.shape n).map fun d => (d, { it with inner := r })) := by
  simp only [datesNext, monthShapeNthDate_eq _ hg, bind, pure]
  rcases it.inner.next with ⟨_ | n, r⟩
  · rfl
  · simp only []; cases Chk.nthDate it.shape n <;> rfl

theorem datesNextBack_eq (it : Dates) (hg : GapOrdered it.shape.calendar) :
    datesNextBack it = (match it.inner.nextBack with
      | (none, r) => some (none, { it with inner := r })
      | (some n, r) => (Chk.nthDate it.shape n).map fun d => (d, { it with inner := r })) := by
  simp only [datesNextBack, monthShapeNthDate_eq _ hg, bind, pure]
  rcases it.inner.nextBack with ⟨_ | n, r⟩
  · rfl
  · simp only []; cases Chk.nthDate it.shape n <;> rfl

theorem sizeHints_eq (a : Days) (b : Dates) (r : RangeIncl) :
    daysSizeHint a = (a.len, some a.len) ∧ datesSizeHint b = (b.len, some b.len)
    ∧ monthIterSizeHint r = ((⟨r⟩ : MonthIter).len, some (⟨r⟩ : MonthIter).len) := ⟨rfl, rfl, rfl⟩

theorem laterNext_eq (st : Option Date) (hg : ∀ d, st = some d → GapOrdered d.calendar) :
    laterNext st = (match st with
      | some d => (Chk.succ d).map fun r => (r, r)
      | none => some (none, none)) := by
  cases st with
  | none => rfl
  | some d =>
    simp only [laterNext, dateSucc_eq d (hg d rfl), bind, pure]
    cases Chk.succ d <;> rfl

theorem earlierNext_eq (st : Option Date) (hg : ∀ d, st = some d → GapOrdered d.calendar) :
    earlierNext st = (match st with
      | some d => (Chk.pred d).map fun r => (r, r)
      | none => some (none, none)) := by
  cases st with
  | none => rfl
  | some d =>
    simp only [earlierNext, datePred_eq d (hg d rfl), bind, pure]
    cases Chk.pred d <;> rfl

theorem andLaterNext_eq (st : Option Date) (hg : ∀ d, st = some d → GapOrdered d.calendar) :
    andLaterNext st = (match st with
      | some d => (Chk.succ d).map fun r => (some d, r)
      | none => some (none, none)) := by
  cases st with
  | none => rfl
  | some d =>
    simp only [andLaterNext, dateSucc_eq d (hg d rfl), bind, pure]
    cases Chk.succ d <;> rfl

theorem andEarlierNext_eq (st : Option Date) (hg : ∀ d, st = some d → GapOrdered d.calendar) :
    andEarlierNext st = (match st with
      | some d => (Chk.pred d).map fun r => (some d, r)
      | none => some (none, none)) := by
  cases st with
  | none => rfl
  | some d =>
    simp only [andEarlierNext, datePred_eq d (hg d rfl), bind, pure]
    cases Chk.pred d <;> rfl

theorem iterNew_eq (d : Date) :
    laterNew d = some d ∧ earlierNew d = some d ∧ andLaterNew d = some d ∧ andEarlierNew d = some d
    ∧ dateLater d = some d ∧ dateEarlier d = some d ∧ dateAndLater d = some d ∧ dateAndEarlier d = some d
    ∧ monthIterNew = MonthIter.new.inner := ⟨rfl, rfl, rfl, rfl, rfl, rfl, rfl, rfl, rfl⟩

/-- `MonthIter::next`: the generated function faults exactly where the model's inner option is
`none` (the `.expect`), which C17 proves unreachable -/
theorem monthIterNext_eq (r : RangeIncl) :
    monthIterNext r = (match r.next with
      | (none, r') => some (none, r')
      | (some n, r') => (Month.ofInt? n).map fun m => (some m, r')) := by
  simp only [monthIterNext, monthTryFromU32_eq, pure]
  rcases r.next with ⟨_ | n, r'⟩
  · rfl
  · simp only []; cases Month.ofInt? n <;> rfl

theorem monthIterNextBack_eq (r : RangeIncl) :
    monthIterNextBack r = (match r.nextBack with
      | (none, r') => some (none, r')
      | (some n, r') => (Month.ofInt? n).map fun m => (some m, r')) := by
  simp only [monthIterNextBack, monthTryFromU32_eq, pure]
  rcases r.nextBack with ⟨_ | n, r'⟩
  · rfl
  · simp only []; cases Month.ofInt? n <;> rfl

end JV.Gen
