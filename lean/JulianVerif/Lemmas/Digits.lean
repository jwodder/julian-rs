/-
Lemmas/Digits.lean — decimal rendering and reading are inverse; the digit scanner splits a
text exactly where its digits end.
-/
import JulianVerif.Model.Text
namespace JV

theorem isAsciiDigit_iff (c : Char) : isAsciiDigit c = true ↔ (48 ≤ c.toNat ∧ c.toNat ≤ 57) := by
  simp only [isAsciiDigit, Bool.and_eq_true, decide_eq_true_eq, Char.le_def]
  rfl

theorem digit_ne_sign {c : Char} (h : isAsciiDigit c = true) : c ≠ '-' ∧ c ≠ '+' := by
  constructor <;> (rintro rfl; revert h; decide)

/-- `digits` of the grammar `[sign]digits-digits[-digits]` -/
def AllDigits (ds : List Char) : Prop := ds ≠ [] ∧ ∀ c ∈ ds, isAsciiDigit c = true

/-- a continuation that cannot be mistaken for more digits -/
def NoDigitHead (rest : List Char) : Prop := ∀ c cs, rest = c :: cs → isAsciiDigit c = false

theorem noDigitHead_nil : NoDigitHead [] := by intro c cs h; cases h
theorem noDigitHead_dash (cs : List Char) : NoDigitHead ('-' :: cs) := by
  intro c cs' h; injection h with h _; subst h; decide

/-- the reader is core's `Nat.ofDigitChars 10`, as the printer is core's `Nat.toDigits 10` (`natDigits_eq`) -/
theorem digitsVal_eq (ds : List Char) (a : Nat) : digitsVal ds a = Nat.ofDigitChars 10 ds a := by
  induction ds generalizing a with
  | nil => rfl
  | cons c cs ih => rw [digitsVal, ih, Nat.ofDigitChars_cons, Nat.mul_comm]; rfl

/-- digits only, reads back (both core's; `isAsciiDigit` unfolds to `Char.isDigit`), no leading zero -/
theorem toDigits_spec (n : Nat) :
    (∀ c ∈ Nat.toDigits 10 n, isAsciiDigit c = true)
    ∧ digitsVal (Nat.toDigits 10 n) 0 = n
    ∧ (∃ c cs, Nat.toDigits 10 n = c :: cs ∧ (c = '0' → n = 0 ∧ cs = [])) := by
  refine ⟨fun _ hc => Nat.isDigit_of_mem_toDigits (by decide) (by decide) hc,
    by rw [digitsVal_eq, Nat.ofDigitChars_ten_toDigits], ?_⟩
  induction n using Nat.base_induction 10 (by decide) with
  | single m hm =>
    refine ⟨_, [], Nat.toDigits_of_lt_base hm, fun h => ⟨?_, rfl⟩⟩
    revert m; decide
  | digit m k hk hm ih =>
    obtain ⟨c, cs, e, h⟩ := ih
    refine ⟨c, cs ++ Nat.toDigits 10 k, by rw [← Nat.toDigits_append_toDigits (by decide) hm hk, e]; rfl, fun hc => ?_⟩
    have := (h hc).1
    omega

theorem natDigits_eq (n : Nat) : natDigits n = Nat.toDigits 10 n := by
  suffices h : ∀ fuel n acc, digitsFuel fuel n acc = Nat.toDigitsCore 10 fuel n acc from h _ _ _
  intro fuel
  induction fuel with
  | zero => intro n acc; rfl
  | succ f ih =>
    intro n acc
    have hd : ∀ k, k < 10 → Char.ofNat (48 + k) = Nat.digitChar k := by decide
    simp only [digitsFuel, Nat.toDigitsCore, digitChar, hd _ (Nat.mod_lt _ (by decide)), ih]

theorem padNat_allDigits (w n : Nat) : AllDigits (padNat w n) := by
  have h := (toDigits_spec n).1
  simp only [padNat, natDigits_eq]
  refine ⟨by simp [Nat.toDigits_ne_nil], fun c hc => ?_⟩
  simp only [List.mem_append, List.mem_replicate] at hc
  rcases hc with ⟨_, rfl⟩ | hc
  · decide
  · exact h c hc

theorem digitsVal_padNat (w n : Nat) : digitsVal (padNat w n) 0 = n := by
  simp only [padNat, natDigits_eq, digitsVal_eq, Nat.ofDigitChars_append, Nat.ofDigitChars_replicate_zero,
    Nat.mul_zero, Nat.ofDigitChars_ten_toDigits]

theorem fmtDate_chars (d : Date) :
    (∀ c ∈ fmtDate d, isAsciiDigit c = true ∨ c = '-')
    ∧ (∀ c ∈ fmtDateAlt d, isAsciiDigit c = true ∨ c = '-') := by
  have hp : ∀ w n, ∀ c ∈ padNat w n, isAsciiDigit c = true ∨ c = '-' :=
    fun w n c hc => Or.inl ((padNat_allDigits w n).2 c hc)
  have hy : ∀ c ∈ fmtYear d.year, isAsciiDigit c = true ∨ c = '-' := by
    intro c hc
    simp only [fmtYear] at hc
    split at hc
    · exact (List.mem_cons.mp hc).elim Or.inr (hp _ _ c)
    · exact hp _ _ c hc
  constructor <;> intro c hc
  · simp only [fmtDate, List.mem_append, List.mem_singleton] at hc
    rcases hc with (((hc | rfl) | hc) | rfl) | hc
    · exact hy c hc
    · exact Or.inr rfl
    · exact hp _ _ c hc
    · exact Or.inr rfl
    · exact hp _ _ c hc
  · simp only [fmtDateAlt, List.mem_append, List.mem_singleton] at hc
    rcases hc with (hc | rfl) | hc
    · exact hy c hc
    · exact Or.inr rfl
    · exact hp _ _ c hc

/-- the scanner stops where the digits stop … -/
theorem spanDigits_append {ds rest : List Char} (hd : ∀ c ∈ ds, isAsciiDigit c = true) (hr : NoDigitHead rest) :
    spanDigits (ds ++ rest) = (ds, rest) := by
  induction ds with
  | nil =>
    cases rest with
    | nil => rfl
    | cons c cs => simp only [List.nil_append, spanDigits, hr c cs rfl, Bool.false_eq_true, if_false]
  | cons d ds ih =>
    simp only [List.cons_append, spanDigits, hd d List.mem_cons_self, if_true,
      ih fun c hc => hd c (List.mem_cons_of_mem _ hc)]

/-- … and what it returns is such a split -/
theorem spanDigits_spec (s : List Char) :
    s = (spanDigits s).1 ++ (spanDigits s).2 ∧ (∀ c ∈ (spanDigits s).1, isAsciiDigit c = true)
      ∧ NoDigitHead (spanDigits s).2 := by
  fun_induction spanDigits s with
  | case1 => exact ⟨rfl, nofun, noDigitHead_nil⟩
  | case2 c cs hc ds rest e ih =>
    rw [e] at ih
    exact ⟨congrArg _ ih.1, fun x hx => (List.mem_cons.mp hx).elim (· ▸ hc) (ih.2.1 x), ih.2.2⟩
  | case3 c cs hc => exact ⟨rfl, nofun, fun x xs h => by cases h; simpa using hc⟩

theorem spanDigits_eq_iff {s ds rest : List Char} :
    spanDigits s = (ds, rest)
      ↔ s = ds ++ rest ∧ (∀ c ∈ ds, isAsciiDigit c = true) ∧ NoDigitHead rest :=
  ⟨fun h => by have := spanDigits_spec s; rwa [h] at this, fun ⟨e, hd, hr⟩ => e ▸ spanDigits_append hd hr⟩

end JV
