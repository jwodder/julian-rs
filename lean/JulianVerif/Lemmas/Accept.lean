/-
Lemmas/Accept.lean — a date accepted by `at_ymd` / `at_ordinal_date` is the date
`at_jdn` gives for its day number (the other half of C06/C07).
-/
import JulianVerif.Lemmas.Step
namespace JV

/-- what `at_ymd` / `at_ordinal_date` additionally need from a tiled calendar -/
structure Accepting (c : Calendar) extends YearTiling c where
  valid : ∀ y, ∀ m ∈ Month.all, ∀ s, c.monthIShape y m = some s → s.Valid
  lenSum : ∀ y, c.yearLength y = c.sumAll y Month.all
  live_of_len : ∀ y, 0 < c.yearLength y → Live y
  /-- `get_jdn` undoes the year / day-of-year computation of `at_jdn` -/
  getJdn_atJdn : ∀ j d, c.atJdn? j = some d → InI32 d.year →
      c.getJdn d.year d.ordinal = if InI32 j then some j else none

namespace Accepting
variable {c : Calendar} (A : Accepting c)

include A in
theorem shape_valid {y : Int} {m : Month} {s : IShape} (hs : c.monthIShape y m = some s) : s.Valid :=
  A.valid y m (Month.mem_all m) s hs

include A in
theorem yearLength_nonneg (y : Int) : 0 ≤ c.yearLength y := by
  have hL := c.lenOf_nonneg y (A.valid y)
  have := prefixSum_nonneg _ hL .december
  have := hL .december
  rw [A.lenSum y, Calendar.sumAll_all]; omega

include A in
theorem coords {j : Int} {d : Date} (h : c.atJdn? j = some d) :
    ∃ s, c.monthIShape d.year d.month = some s ∧ s.nthDay d.dayOrdinal = some d.day
      ∧ 1 ≤ d.dayOrdinal ∧ A.Live d.year
      ∧ j = A.F d.year + prefixSum (c.lenOf d.year) d.month + d.dayOrdinal - 1 := by
  obtain ⟨_, _, hl, ho, _, _⟩ := A.toYearTiling.block_of h
  obtain ⟨s, hs, hn, hk, hoo⟩ :=
    (c.ordinal2ymddo_ok_iff d.year (A.valid _) (A.lenSum _)).mp (atJdn?_parts h).2.2
  exact ⟨s, hs, hn, hk, hl, by omega⟩

include A in
theorem date_at {y : Int} {m : Month} {s : IShape} {k dd : Int}
    (hs : c.monthIShape y m = some s) (hk : 1 ≤ k) (hn : s.nthDay k = some dd) :
    c.atJdn? (A.F y + prefixSum (c.lenOf y) m + k - 1)
      = some ⟨c, y, prefixSum (c.lenOf y) m + k, m, dd, k,
              A.F y + prefixSum (c.lenOf y) m + k - 1⟩ := by
  have hw := (c.ordinal2ymddo_ok_iff y (A.valid y) (A.lenSum y)).mpr ⟨s, hs, hn, hk, rfl⟩
  obtain ⟨h1, h2⟩ := Calendar.ordinal2ymddo_ok_range hw
  obtain ⟨m', dd', k', hw', hd⟩ := A.toYearTiling.atJdn_at (A.live_of_len y (by omega)) h1 h2
  rw [hw] at hw'
  cases hw'
  rw [show A.F y + prefixSum (c.lenOf y) m + k - 1 = A.F y + (prefixSum (c.lenOf y) m + k) - 1 by omega]
  exact hd

include A in
/-- what `at_ymd` and `at_ordinal_date` share: a date built from coordinates whose day
number `get_jdn` computes is the canonical date -/
theorem canon_of_coords {y : Int} (hy : InI32 y) {m : Month} {s : IShape} {k dd jdn : Int}
    (hs : c.monthIShape y m = some s) (hk : 1 ≤ k) (hn : s.nthDay k = some dd)
    (hg : c.getJdn y (prefixSum (c.lenOf y) m + k) = some jdn) :
    c.atJdn? jdn = some ⟨c, y, prefixSum (c.lenOf y) m + k, m, dd, k, jdn⟩ ∧ InI32 jdn := by
  have hd := A.date_at hs hk hn
  have hgj := A.getJdn_atJdn _ _ hd hy
  rw [hg] at hgj
  split at hgj
  · rename_i hin
    cases hgj; exact ⟨hd, hin⟩
  · cases hgj

include A in
/-- a day `get_day_ordinal` accepts is the `k`-th day of its month -/
theorem getDayOrdinal_ok {y : Int} {m : Month} {dd k : Int} (hdd : 0 ≤ dd)
    (h : c.getDayOrdinal y m dd = .ok k) :
    ∃ s, c.monthIShape y m = some s ∧ s.nthDay k = some dd ∧ 1 ≤ k ∧ k ≤ s.len := by
  revert h
  fun_cases Calendar.getDayOrdinal c y m dd with
  | case1 s hs => exact fun h => ⟨s, hs, s.nthDay_of_dayOrdinalErr (A.shape_valid hs) y m hdd h⟩
  | case2 => nofun

/-! The three constructors, inverted: of the branches of each, the one that returns `Ok`. -/

include A in
theorem atOrdinalDate_canon (y o : Int) (hy : InI32 y) (d : Date)
    (h : c.atOrdinalDate y o = .ok d) :
    c.atJdn? d.jdn = some d ∧ InI32 d.jdn ∧ d.year = y ∧ d.ordinal = o := by
  revert h
  fun_cases Calendar.atOrdinalDate c y o with
  | case3 m dd k hw jdn hg =>
    rintro ⟨⟩
    obtain ⟨s, hs, hn, hk, rfl⟩ := (c.ordinal2ymddo_ok_iff y (A.valid y) (A.lenSum y)).mp hw
    obtain ⟨h1, h2⟩ := A.canon_of_coords hy hs hk hn hg
    exact ⟨h1, h2, rfl, rfl⟩
  | _ => nofun

include A in
theorem atYmd_canon (y : Int) (hy : InI32 y) (m : Month) (dd : Int) (hdd : 0 ≤ dd) (d : Date)
    (h : c.atYmd y m dd = .ok d) :
    c.atJdn? d.jdn = some d ∧ InI32 d.jdn ∧ d.year = y ∧ d.month = m ∧ d.day = dd := by
  revert h
  fun_cases Calendar.atYmd c y m dd with
  | case3 k hdo ordinal jdn hg =>
    rintro ⟨⟩
    obtain ⟨s, hs, hn, hk, _⟩ := A.getDayOrdinal_ok hdd hdo
    have e : ordinal = prefixSum (c.lenOf y) m + k := c.ymdo2ordinal_eq y m k
    rw [e] at hg ⊢
    obtain ⟨h1, h2⟩ := A.canon_of_coords hy hs hk hn hg
    exact ⟨h1, h2, rfl, rfl, rfl⟩
  | _ => nofun

include A in
theorem nthDate_canon (y : Int) (hy : InI32 y) (m : Month) (s : IShape) (hs : c.monthIShape y m = some s)
    (n : Int) (hn : 0 ≤ n) (d : Date) (h : (MonthShape.mk c y m s).nthDate n = some d) :
    c.atJdn? d.jdn = some d ∧ InI32 d.jdn ∧ d.year = y ∧ d.month = m ∧ s.nthDay n = some d.day := by
  revert h
  fun_cases MonthShape.nthDate ⟨c, y, m, s⟩ n with
  | case2 day hday d' hd' =>
    rintro ⟨⟩
    obtain ⟨h1, h2, h3, h4, h5⟩ :=
      A.atYmd_canon y hy m day (Int.le_trans hn (IShape.nthDay_range (A.shape_valid hs) hn hday).1) _ hd'
    exact ⟨h1, h2, h3, h4, h5 ▸ hday⟩
  | _ => nofun

include A in
theorem existing {j : Int} {d : Date} (h : c.atJdn? j = some d) (hy : InI32 d.year) :
    c.atYmd d.year d.month d.day = (if InI32 j then .ok d else .error .arithmetic)
    ∧ c.atOrdinalDate d.year d.ordinal = (if InI32 j then .ok d else .error .arithmetic) := by
  obtain ⟨hcal, hjd, hp⟩ := atJdn?_parts h
  obtain ⟨s, hs, hn, hk, ho⟩ := (c.ordinal2ymddo_ok_iff d.year (A.valid _) (A.lenSum _)).mp hp
  have hdo := s.dayOrdinalErr_of_nthDay (A.shape_valid hs) d.year d.month hk hn
  have hyo : c.ymdo2ordinal d.year d.month d.dayOrdinal = d.ordinal := by
    rw [Calendar.ymdo2ordinal_eq, ho]
  have hg := A.getJdn_atJdn j d h hy
  have heta : d = ⟨c, d.year, d.ordinal, d.month, d.day, d.dayOrdinal, j⟩ := by
    cases d; simp only at *; subst hcal hjd; rfl
  by_cases hin : InI32 j
  · rw [if_pos hin] at hg ⊢
    simp only [Calendar.atYmd, Calendar.getDayOrdinal, hs, hdo, hyo, Calendar.atOrdinalDate, hp, hg, ← heta,
      and_self]
  · rw [if_neg hin] at hg ⊢
    simp only [Calendar.atYmd, Calendar.getDayOrdinal, hs, hdo, hyo, Calendar.atOrdinalDate, hp, hg, and_self]

end Accepting
end JV
