/-
Lemmas/JsonValid.lean — the `-J` output of the julian command is a JSON document
(Spec/Json.lean) and denotes the calendar and the dates it reports.

The command prints every object and array a line per member (`joinLines`).  Any text of that
shape is JSON (`text_objString`, `text_arrString`), and `date2json`, `json_start` and the patched,
newline-joined output are of that shape: equations between strings, proved with the string
literals kept whole and cut only where the two sides cut them differently.
-/
import JulianVerif.Spec.Json
import JulianVerif.Lemmas.CliSpec
import JulianVerif.Lemmas.CliJson
namespace JV.Json
open Cli

theorem natTok_toDigits (n : Nat) : natTok (Nat.toDigits 10 n) = true := by
  obtain ⟨h1, _, c, cs, h3, h4⟩ := toDigits_spec n
  simp only [natTok, Bool.or_eq_true]
  by_cases hc : c = '0'
  · left
    obtain ⟨_, hcs⟩ := h4 hc
    rw [h3, hc, hcs]; rfl
  · right
    rw [h3]
    simp only [Bool.and_eq_true, bne_iff_ne, ne_eq, hc, not_false_eq_true, true_and]
    rw [← h3, List.all_eq_true]
    exact h1

theorem intTok_toString (i : Int) : IntTok i (toString i).toList := by
  rw [Int.toString_eq_repr, Int.repr_eq_if]
  by_cases h : 0 ≤ i
  · simp only [h, if_true, Nat.toList_repr]
    have := IntTok.pos (natTok_toDigits i.toNat)
    rw [(toDigits_spec i.toNat).2.1] at this
    have e : ((i.toNat : Nat) : Int) = i := by omega
    rw [e] at this; exact this
  · simp only [h, if_false, String.toList_append, Nat.toList_repr]
    have := IntTok.neg (natTok_toDigits (-i).toNat)
    rw [(toDigits_spec (-i).toNat).2.1] at this
    have e : -(((-i).toNat : Nat) : Int) = i := by omega
    rw [e] at this
    simpa using this

/-! The command prints an object with a member per line and an array with an element per line,
a comma after each line but the last: `joinLines`.  `members_lines` and `elems_lines` read
such text as `Members` / `Elems`, whatever the indentation. -/

theorem ws_nil : Ws [] := by intro c hc; cases hc
theorem ws_replicate (n : Nat) : Ws (List.replicate n ' ') := by
  intro c hc; rw [List.mem_replicate] at hc; rw [hc.2]; rfl
theorem ws_nl (n : Nat) : Ws ('\n' :: List.replicate n ' ') := by
  intro c hc
  rcases List.mem_cons.mp hc with h | h
  · rw [h]; rfl
  · exact ws_replicate n c h
theorem Ws.append {a b : List Char} (ha : Ws a) (hb : Ws b) : Ws (a ++ b) := by
  intro c hc
  rcases List.mem_append.mp hc with h | h
  · exact ha c h
  · exact hb c h

theorem plain_of_all {l : List Char} (h : l.all unescaped = true) : Plain l := by
  intro c hc; exact List.all_eq_true.mp h c hc

/-- lines, a comma after each but the last -/
def joinLines : List String → String
  | [] => ""
  | [x] => x
  | x :: y :: r => x ++ ",\n" ++ joinLines (y :: r)

/-- a member as the command prints it: indentation, then `"key": value`; an entry is
(key, value, the text the value is printed as) -/
def memberLine (ind : Nat) (x : List Char × Val × List Char) : String :=
  sp ind ++ ("\"" ++ String.ofList x.1 ++ "\": ") ++ String.ofList x.2.2

/-- an array element as the command prints it; an entry is (value, its text) -/
def elemLine (ind : Nat) (x : Val × List Char) : String := sp ind ++ String.ofList x.2

theorem members_lines (ind : Nat) {w wEnd : List Char} (hw : Ws w) (he : Ws wEnd) :
    ∀ (l : List (List Char × Val × List Char)), l ≠ [] →
      (∀ x ∈ l, Plain x.1 ∧ Text x.2.1 x.2.2) →
      Members (l.map fun x => (x.1, x.2.1)) (w ++ (joinLines (l.map (memberLine ind))).toList ++ wEnd)
  | [], h, _ => absurd rfl h
  | [x], _, h => by
    obtain ⟨hk, ht⟩ := h x (by simp)
    have := Members.one (w2 := []) (w3 := [' ']) (hw.append (ws_replicate ind)) hk ws_nil
      (ws_replicate 1) ht he
    simpa [joinLines, memberLine, sp, String.toList_append] using this
  | x :: y :: r, _, h => by
    obtain ⟨hk, ht⟩ := h x (by simp)
    have ih := members_lines ind (ws_nl 0) he (y :: r) (by simp) (fun z hz => h z (by simp [hz]))
    have := Members.cons (w2 := []) (w3 := [' ']) (w4 := []) (hw.append (ws_replicate ind)) hk ws_nil
      (ws_replicate 1) ht ws_nil ih
    simpa [joinLines, memberLine, sp, String.toList_append] using this

theorem elems_lines (ind : Nat) {w wEnd : List Char} (hw : Ws w) (he : Ws wEnd) :
    ∀ (l : List (Val × List Char)), l ≠ [] → (∀ x ∈ l, Text x.1 x.2) →
      Elems (l.map (·.1)) (w ++ (joinLines (l.map (elemLine ind))).toList ++ wEnd)
  | [], h, _ => absurd rfl h
  | [x], _, h => by
    have := Elems.one (hw.append (ws_replicate ind)) (h x (by simp)) he
    simpa [joinLines, elemLine, sp, String.toList_append] using this
  | x :: y :: r, _, h => by
    have ih := elems_lines ind (ws_nl 0) he (y :: r) (by simp) (fun z hz => h z (by simp [hz]))
    have := Elems.cons (w2 := []) (hw.append (ws_replicate ind)) (h x (by simp)) ws_nil ih
    simpa [joinLines, elemLine, sp, String.toList_append] using this

/-- an object as the command prints it: a member per line at indentation `ind`, the closing
brace at `ind'` -/
def objString (ind ind' : Nat) (l : List (List Char × Val × List Char)) : String :=
  "{\n" ++ joinLines (l.map (memberLine ind)) ++ "\n" ++ sp ind' ++ "}"

def arrString (ind ind' : Nat) (l : List (Val × List Char)) : String :=
  "[\n" ++ joinLines (l.map (elemLine ind)) ++ "\n" ++ sp ind' ++ "]"

/-- any object printed this way is JSON, whatever the indentation: the date object, the calendar
object and the whole document are instances -/
theorem text_objString (ind ind' : Nat) (l : List (List Char × Val × List Char)) (hne : l ≠ [])
    (h : ∀ x ∈ l, Plain x.1 ∧ Text x.2.1 x.2.2) :
    Text (.obj (l.map fun x => (x.1, x.2.1))) (objString ind ind' l).toList := by
  have := Text.obj (members_lines ind (ws_nl 0) (ws_nl ind') l hne h)
  simpa [objString, sp, String.toList_append] using this

theorem text_arrString (ind ind' : Nat) (l : List (Val × List Char)) (hne : l ≠ [])
    (h : ∀ x ∈ l, Text x.1 x.2) : Text (.arr (l.map (·.1))) (arrString ind ind' l).toList := by
  have := Text.arr (elems_lines ind (ws_nl 0) (ws_nl ind') l hne h)
  simpa [arrString, sp, String.toList_append] using this

def intM (k : String) (i : Int) : List Char × Val × List Char :=
  (k.toList, .int i, (toString i).toList)
def strM (k : String) (s : List Char) : List Char × Val × List Char :=
  (k.toList, .str s, '"' :: s ++ ['"'])
def boolM (k : String) (b : Bool) : List Char × Val × List Char :=
  (k.toList, .bool b, if b then ['t', 'r', 'u', 'e'] else ['f', 'a', 'l', 's', 'e'])

/-- the members of a date object, each with the text its value is printed as -/
def dateMembers (d : Date) : List (List Char × Val × List Char) :=
  [ intM "julian_day_number" d.jdn, intM "year" d.year, intM "month" d.month.number,
    intM "day" d.day, intM "ordinal" d.ordinal,
    strM "display" (JV.fmtDate d), strM "ordinal_display" (fmtDateAlt d) ]
  ++ (if d.calendar.isReforming then [boolM "old_style" d.isJulian] else [])

def dateVal (d : Date) : Val := .obj ((dateMembers d).map fun x => (x.1, x.2.1))

theorem memberLine_intM (ind : Nat) (k : String) (i : Int) :
    memberLine ind (intM k i) = sp ind ++ ("\"" ++ k ++ "\": ") ++ toString i := by
  simp [memberLine, intM]

theorem memberLine_strM (ind : Nat) (k : String) (s : List Char) :
    memberLine ind (strM k s)
      = sp ind ++ ("\"" ++ k ++ "\": \"") ++ String.ofList s ++ "\"" := by
  simp [memberLine, strM, ← String.toList_inj]

theorem memberLine_boolM (ind : Nat) (k : String) (b : Bool) :
    memberLine ind (boolM k b)
      = sp ind ++ ("\"" ++ k ++ "\": ") ++ (if b then "true" else "false") := by
  cases b <;> simp [memberLine, boolM]

theorem toString_str (s : String) : toString s = s := rfl

/-- for the `old_style` line of `date2json`, which is there only for a reforming calendar -/
theorem joinLines_append_ite (b : Bool) (x : String) : ∀ l : List String, l ≠ [] →
    joinLines (l ++ if b then [x] else []) = joinLines l ++ if b then ",\n" ++ x else ""
  | [], h => absurd rfl h
  | [y], _ => by cases b <;> simp [joinLines, String.append_assoc]
  | y :: z :: r, _ => by
    have := joinLines_append_ite b x (z :: r) (List.cons_ne_nil _ _)
    simp only [List.cons_append, joinLines] at this ⊢
    rw [this]; simp only [String.append_assoc]

theorem date2json_eq (d : Date) : date2json d = sp 8 ++ objString 12 8 (dateMembers d) := by
  unfold date2json objString dateMembers
  simp only [List.map_append, List.map_cons, List.map_nil, apply_ite (List.map (memberLine 12))]
  rw [joinLines_append_ite _ _ _ (List.cons_ne_nil _ _)]
  simp only [toString_str, joinLines, memberLine_intM, memberLine_strM, memberLine_boolM,
    String.reduceAppend]
  -- what is left is where the literals are cut
  rw [show "\",\n" = "\"" ++ ",\n" from rfl]
  simp only [String.append_assoc]

theorem unescaped_of_digit_or_dash (c : Char) (h : isAsciiDigit c = true ∨ c = '-') :
    unescaped c = true := by
  rcases h with h | h
  · rw [isAsciiDigit_iff] at h
    simp only [unescaped, Bool.and_eq_true, decide_eq_true_eq, bne_iff_ne, ne_eq]
    refine ⟨⟨by omega, ?_⟩, ?_⟩
    · intro e; rw [e] at h; simp at h
    · intro e; rw [e] at h; simp at h
  · subst h; decide

theorem fmt_plain (d : Date) : Plain (JV.fmtDate d) ∧ Plain (fmtDateAlt d) :=
  ⟨fun c hc => unescaped_of_digit_or_dash c ((fmtDate_chars d).1 c hc),
    fun c hc => unescaped_of_digit_or_dash c ((fmtDate_chars d).2 c hc)⟩

theorem ok_intM {k : String} {i : Int} (hk : k.toList.all unescaped = true) :
    Plain (intM k i).1 ∧ Text (intM k i).2.1 (intM k i).2.2 :=
  ⟨plain_of_all hk, Text.int (intTok_toString i)⟩

theorem ok_strM {k : String} {s : List Char} (hk : k.toList.all unescaped = true) (h : Plain s) :
    Plain (strM k s).1 ∧ Text (strM k s).2.1 (strM k s).2.2 :=
  ⟨plain_of_all hk, Text.str h⟩

theorem ok_boolM {k : String} {b : Bool} (hk : k.toList.all unescaped = true) :
    Plain (boolM k b).1 ∧ Text (boolM k b).2.1 (boolM k b).2.2 :=
  ⟨plain_of_all hk, by
    cases b
    · exact Text.fls
    · exact Text.tru⟩

theorem text_dateObj (d : Date) : Text (dateVal d) (objString 12 8 (dateMembers d)).toList := by
  apply text_objString
  · simp [dateMembers]
  · intro x hx
    simp only [dateMembers, List.mem_append, List.mem_cons, List.not_mem_nil, or_false] at hx
    rcases hx with (rfl | rfl | rfl | rfl | rfl | rfl | rfl) | hx
    · exact ok_intM (by decide)
    · exact ok_intM (by decide)
    · exact ok_intM (by decide)
    · exact ok_intM (by decide)
    · exact ok_intM (by decide)
    · exact ok_strM (by decide) (fmt_plain d).1
    · exact ok_strM (by decide) (fmt_plain d).2
    · split at hx
      · simp only [List.mem_singleton] at hx; subst hx
        exact ok_boolM (by decide)
      · cases hx

/-- the name `json_start` prints for the calendar -/
def calTypeName : Calendar → List Char
  | .julian => "julian".toList
  | .gregorian => "gregorian".toList
  | .reforming _ _ => "reforming".toList

def calMembers (c : Calendar) : List (List Char × Val × List Char) :=
  strM "type" (calTypeName c) ::
    (match c with
     | .reforming r _ => [intM "reformation" r]
     | _ => [])

def calVal (c : Calendar) : Val := .obj ((calMembers c).map fun x => (x.1, x.2.1))

theorem text_calObj (c : Calendar) : Text (calVal c) (objString 8 4 (calMembers c)).toList := by
  apply text_objString
  · simp [calMembers]
  · intro x hx
    simp only [calMembers, List.mem_cons] at hx
    rcases hx with rfl | hx
    · refine ok_strM (by decide) ?_
      cases c
      · exact plain_of_all (l := "julian".toList) (by decide)
      · exact plain_of_all (l := "gregorian".toList) (by decide)
      · exact plain_of_all (l := "reforming".toList) (by decide)
    · cases c <;> simp only [List.mem_singleton, List.not_mem_nil] at hx
      subst hx
      exact ok_intM (by decide)

/-- `json_start` prints the document up to the `[` of the `dates` array; the calendar object is
its first member -/
theorem jsonStart_eq (c : Calendar) :
    jsonStart c = "{\n" ++ sp 4 ++ "\"calendar\": " ++ objString 8 4 (calMembers c) ++ ",\n"
      ++ sp 4 ++ "\"dates\": [" := by
  have hn : (if c.beq .julian then "julian" else if c.beq .gregorian then "gregorian" else "reforming")
      = String.ofList (calTypeName c) := by cases c <;> rfl
  unfold jsonStart objString calMembers
  rw [hn]
  cases c <;>
    simp only [Calendar.reformation, toString_str, List.map, joinLines, memberLine_intM,
      memberLine_strM, String.append_empty, String.reduceAppend] <;>
    rw [show "\"calendar\": {\n" = "\"calendar\": " ++ "{\n" from rfl,
      show "},\n" = "}" ++ ",\n" from rfl] <;>
    simp only [String.append_assoc]

theorem joinLines_snoc : ∀ (mid : List String) (last : String),
    joinLines (mid ++ [last]) = String.join (mid.map (· ++ ",\n")) ++ last
  | [], _ => by simp [joinLines]
  | [x], _ => by simp [joinLines, String.join_cons]
  | x :: y :: r, last => by
    have := joinLines_snoc (y :: r) last
    simp only [List.cons_append, joinLines, List.map_cons, String.join_cons] at this ⊢
    rw [this]; simp only [String.append_assoc]

/-- `(· ++ "\n")`: every piece is written by `println!` -/
theorem join_jsonPatch (h : String) (mid : List String) (last : String) :
    String.join ((jsonPatch (h :: (mid ++ [last]))).map (· ++ "\n"))
      = h ++ "\n" ++ joinLines (mid ++ [last]) ++ jsonTail ++ "\n" := by
  rw [jsonPatch_snoc, joinLines_snoc]
  simp only [List.map_cons, List.map_append, List.map_map, Function.comp_def, List.map_nil,
    String.join_cons, String.join_append, String.join_nil, String.append_assoc, String.append_empty,
    String.reduceAppend]

/-- an array element: the value of a date and the text of its object -/
def dateElem (d : Date) : Val × List Char := (dateVal d, (objString 12 8 (dateMembers d)).toList)

def docVal (c : Calendar) (ds : List Date) : Val :=
  .obj [("calendar".toList, calVal c), ("dates".toList, .arr (ds.map dateVal))]

/-- the two members of the document, each with the text its value is printed as -/
def docMembers (c : Calendar) (ds : List Date) : List (List Char × Val × List Char) :=
  [("calendar".toList, calVal c, (objString 8 4 (calMembers c)).toList),
    ("dates".toList, .arr (ds.map dateVal), (arrString 8 4 (ds.map dateElem)).toList)]

theorem output_eq (c : Calendar) (ds : List Date) (hne : ds ≠ []) :
    String.join ((jsonPatch (jsonStart c :: ds.map date2json)).map (· ++ "\n"))
      = objString 4 0 (docMembers c ds) ++ "\n" := by
  have hne' : ds.map date2json ≠ [] := fun h => hne (List.map_eq_nil_iff.mp h)
  have hd : ds.map date2json = (ds.map dateElem).map (elemLine 8) := by
    simp [dateElem, elemLine, date2json_eq, String.ofList_toList]
  obtain ⟨mid, last, e⟩ : ∃ mid last, ds.map date2json = mid ++ [last] := by
    rcases List.eq_nil_or_concat (ds.map date2json) with h | ⟨mid, last, h⟩
    · exact absurd h hne'
    · exact ⟨mid, last, by rw [h, List.concat_eq_append]⟩
  rw [e, join_jsonPatch, ← e, jsonStart_eq, hd]
  simp only [docMembers, objString, arrString, List.map, joinLines, memberLine, String.ofList_toList,
    String.reduceAppend]
  rw [show jsonTail = "\n" ++ sp 4 ++ "]" ++ "\n" ++ sp 0 ++ "}" from by decide,
    show "\"dates\": [" = "\"dates\": " ++ "[" from rfl, show "[\n" = "[" ++ "\n" from rfl]
  simp only [String.append_assoc]

theorem doc_of_output (c : Calendar) (ds : List Date) (hne : ds ≠ []) :
    Doc (docVal c ds) (String.join ((jsonPatch (jsonStart c :: ds.map date2json)).map (· ++ "\n"))).toList := by
  have harr := text_arrString 8 4 (ds.map dateElem) (fun h => hne (List.map_eq_nil_iff.mp h)) (by
    intro x hx
    obtain ⟨d, _, rfl⟩ := List.mem_map.mp hx
    -- (unfolded by hand: left to unification, `String.toList` is unfolded first, at great cost)
    simp only [dateElem]
    exact text_dateObj d)
  rw [List.map_map] at harr
  have hobj := text_objString 4 0 (docMembers c ds) (List.cons_ne_nil _ _) (by
    -- (the entries are taken apart by `simp`, for the same reason)
    simp only [docMembers, List.forall_mem_cons]
    exact ⟨⟨plain_of_all (l := "calendar".toList) (by decide), text_calObj c⟩,
      ⟨plain_of_all (l := "dates".toList) (by decide), harr⟩, nofun⟩)
  refine ⟨[], _, ['\n'], ws_nil, hobj, ws_nl 0, ?_⟩
  rw [output_eq c ds hne, String.toList_append, List.nil_append]; rfl

theorem argLines_json (o : Options) (hj : o.json = true) :
    ∀ (args ls : List String), argLines o args = .ok ls →
      ∃ ds : List Date, ds.length = args.length ∧ ls = ds.map date2json
        ∧ ∀ i (h1 : i < args.length) (h2 : i < ds.length), argDate o args[i] = some ds[i]
  | [], ls, h => by
    cases h
    exact ⟨[], rfl, rfl, fun i h1 => absurd h1 (Nat.not_lt_zero i)⟩
  | a :: as, ls, h => by
    obtain ⟨l, ls', ha, hr, rfl⟩ := (argLines_cons_ok_iff o a as ls).mp h
    obtain ⟨d, hd, hl⟩ := (argLine_ok_iff o a l).mp ha
    obtain ⟨ds, h1, h2, h3⟩ := argLines_json o hj as ls' hr
    refine ⟨d :: ds, congrArg (· + 1) h1, by rw [hl, hj, h2]; rfl, fun i hi1 hi2 => ?_⟩
    cases i with
    | zero => exact hd
    | succ i => exact h3 i (Nat.lt_of_succ_lt_succ hi1) (Nat.lt_of_succ_lt_succ hi2)

end JV.Json
