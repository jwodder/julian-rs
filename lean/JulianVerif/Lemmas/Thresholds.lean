/-
Lemmas/Thresholds.lean — C12: which reformation days `Calendar::reforming` accepts, and from
which day on whole months and whole years are skipped.  A reformation whose first Gregorian
label is (y, m, ·) skips `skipAmt y m` labels; everything here is arithmetic on that number
and on the order of labels.
-/
import JulianVerif.Lemmas.AtJdn
import JulianVerif.Model.Cli
namespace JV
open Spec

/-- how many labels a reformation skips whose first Gregorian label lies in month `m` of
year `y`: the century years not divisible by 400 whose 29 February lies before that month,
less two -/
def skipAmt (y : Int) (m : Month) : Int :=
  (y - 1) / 100 - (y - 1) / 400 - 2 + (if y % 100 = 0 ∧ y % 400 ≠ 0 ∧ 3 ≤ m.number then 1 else 0)

theorem julian_sub_gregorian (y : Int) (m : Month) (d : Int) :
    jdnOf .julian y m d - jdnOf .gregorian y m d = skipAmt y m := by
  have h := julian_ordinal_adjust y m
  rw [tmod_beq, tmod_bne] at h
  have hc : ((y % 100 == 0 && y % 400 != 0 && Month.february.lt m) = true)
      ↔ (y % 100 = 0 ∧ y % 400 ≠ 0 ∧ 3 ≤ m.number) := by
    have : Month.february.number = 2 := rfl
    simp only [Bool.and_eq_true, beq_iff_eq, bne_iff_ne, ne_eq, Month.lt_iff, and_assoc]
    omega
  simp only [jdnOf, yearStart, skipAmt, h, hc]
  omega

theorem skipAmt_pos_iff (y : Int) (m : Month) : 0 < skipAmt y m ↔ (301 ≤ y ∨ (y = 300 ∧ 3 ≤ m.number)) := by
  simp only [skipAmt]; split <;> omega

theorem skipAmt_mono {y y' : Int} {m m' : Month} (h : ymKey y m ≤ ymKey y' m') :
    skipAmt y m ≤ skipAmt y' m' := by
  have := Month.number_bounds m; have := Month.number_bounds m'
  simp only [skipAmt, ymKey] at *
  grind

/-- C12: constructing a reforming calendar succeeds exactly for reformation days 1830692
through 2147439588; earlier days are rejected as not skipping forward and later ones as
arithmetic overflow — for every 32-bit candidate -/
theorem mkReforming_cases (r : Int) (hr : InI32 r) :
    (r < 1830692 → Calendar.mkReforming r = .error .invalidReformation)
    ∧ (1830692 ≤ r → r ≤ 2147439588 → ∃ c, Calendar.mkReforming r = .ok c)
    ∧ (2147439588 < r → Calendar.mkReforming r = .error .arithmetic) := by
  obtain ⟨yP, mP, dP, y, m, d, _, ⟨hv, rfl⟩, _, _, e⟩ := mkReforming_eq r
  have hvJ := hv.julian
  -- the thresholds as labels: the first day that skips forward is 0300-03-01 N.S. …
  have hlab : 1830692 ≤ jdnOf .gregorian y m d ↔ (301 ≤ y ∨ (y = 300 ∧ 3 ≤ m.number)) := by
    have := hv.1
    rw [← show jdnOf .gregorian 300 .march 1 = 1830692 by decide,
      jdnOf_le_iff (show ValidYMD .gregorian 300 .march 1 by unfold ValidYMD; decide) hv,
      show Month.march.number = 3 from rfl]
    omega
  have hlo : 1830692 ≤ jdnOf .gregorian y m d ↔ jdnOf .gregorian y m d < jdnOf .julian y m d := by
    rw [hlab, ← skipAmt_pos_iff, ← julian_sub_gregorian y m d]; omega
  have hy : 1830692 ≤ jdnOf .gregorian y m d → 0 ≤ y := fun h => by have := hlab.mp h; omega
  -- … and 5874777-10-17 is the last label whose Julian day number fits, N.S. day 2147439588
  have hhi : jdnOf .gregorian y m d ≤ 2147439588 ↔ jdnOf .julian y m d ≤ 2147483647 := by
    rw [← show jdnOf .gregorian 5874777 .october 17 = 2147439588 by decide,
      ← show jdnOf .julian 5874777 .october 17 = 2147483647 by decide,
      jdnOf_le_iff hv (show ValidYMD .gregorian 5874777 .october 17 by unfold ValidYMD; decide),
      jdnOf_le_iff hvJ (show ValidYMD .julian 5874777 .october 17 by unfold ValidYMD; decide)]
  have hmin : jdnOf .julian y m d < -2147483648 → y < 0 := by
    have := jdnOf_bounds .julian y m d hvJ
    simp only [yearStart] at this; omega
  clear hlab
  generalize jdnOf .gregorian y m d = r at *
  generalize jdnOf .julian y m d = rJ at *
  -- with `hlo`, `hy`, `hhi`, `hmin` each range of `r` selects one arm of the formula
  rw [e]; grind

namespace Cli

/-- every day number in the country table lies in the range `Calendar::reforming` accepts
(`mkReforming_cases`) -/
theorem table_range : ∀ e ∈ nationalReformations, 1830692 ≤ e.2.2 ∧ e.2.2 ≤ 2147439588 := by
  decide

theorem table_inI32 : ∀ e ∈ nationalReformations, InI32 e.2.2 := by
  intro e he; have := table_range e he; omega

theorem table_valid : ∀ e ∈ nationalReformations, ∃ c, Calendar.mkReforming e.2.2 = .ok c :=
  fun e he => (mkReforming_cases _ (table_inI32 e he)).2.1 (table_range e he).1 (table_range e he).2

end Cli

namespace Reform
variable (rf : Reform)

/-- a run of Julian days whose first label follows P and whose last label precedes Q is
skipped entirely, so its length is at most the skipped amount — and equal to it only if
the run ends the day before the Julian date labelled Q -/
theorem skipped_run {y y' : Int} {m m' : Month} {d d' : Int}
    (hv : ValidYMD .julian y m d) (hv' : ValidYMD .julian y' m' d')
    (hP : rf.yP < y ∨ (rf.yP = y ∧ (rf.mP.number < m.number ∨ (rf.mP.number = m.number ∧ rf.dP < d))))
    (hQ : y' < rf.yQ ∨ (y' = rf.yQ ∧ (m'.number < rf.mQ.number ∨ (m'.number = rf.mQ.number ∧ d' < rf.dQ)))) :
    jdnOf .julian y' m' d' - jdnOf .julian y m d + 1 ≤ skipAmt rf.yQ rf.mQ
    ∧ (jdnOf .julian y' m' d' - jdnOf .julian y m d + 1 = skipAmt rf.yQ rf.mQ →
        jdnOf .julian y' m' d' + 1 = jdnOf .julian rf.yQ rf.mQ rf.dQ) := by
  have o1 := (jdnOf_lt_iff rf.hP.1 hv).mpr hP
  have o2 := (jdnOf_lt_iff hv' rf.validQ_julian).mpr hQ
  have := rf.hP.2
  have := rf.hQ.2
  have := julian_sub_gregorian rf.yQ rf.mQ rf.dQ
  omega

/-- a wholly skipped month needs at least 28 skipped labels, hence R ≥ 3145930 -/
theorem skipped_month_threshold (y : Int) (m : Month) (h : rf.cal.monthIShape y m = none) :
    3145930 ≤ rf.R := by
  have hl := monthLen_bounds (leap .julian y) m
  -- the whole Julian month lies between P and Q: a run of skipped labels
  have hrun : monthLen (leap .julian y) m ≤ skipAmt rf.yQ rf.mQ
      ∧ (monthLen (leap .julian y) m = skipAmt rf.yQ rf.mQ →
          jdnOf .julian y m (monthLen (leap .julian y) m) + 1 = jdnOf .julian rf.yQ rf.mQ rf.dQ) := by
    obtain ⟨b1, b2⟩ := (rf.monthIShape_none_iff y m).mp h
    have k1 := ymKey_lt.mp b1
    have k2 := ymKey_lt.mp b2
    have hr := rf.skipped_run (y := y) (m := m) (d := 1) (y' := y) (m' := m)
      (d' := monthLen (leap .julian y) m) (by simp only [ValidYMD]; omega) (by simp only [ValidYMD]; omega)
      (by omega) (by omega)
    rwa [show jdnOf .julian y m (monthLen (leap .julian y) m) - jdnOf .julian y m 1 + 1
      = monthLen (leap .julian y) m by simp only [jdnOf]; omega] at hr
  obtain ⟨hle, heq⟩ := hrun
  by_cases c : 3145930 ≤ rf.R
  · exact c
  · exfalso
    -- below 3901-03-01 at most 28 labels are skipped: the month is a 28-day February and
    -- the first Gregorian date is labelled March 1 of that year — which skips fewer
    have hlab := (jdnOf_lt_iff rf.hQ.1 (show ValidYMD .gregorian 3901 .march 1 by unfold ValidYMD; decide)).mp
      (by rw [rf.hQ.2, show jdnOf .gregorian 3901 .march 1 = 3145930 by decide]; omega)
    have hmar : Month.march.number = 3 := rfl
    have hfeb := Month.feb_number; have hdec := Month.dec_number
    have bQ := Month.number_bounds rf.mQ
    have vQ := rf.validQ
    have h28 : skipAmt rf.yQ rf.mQ ≤ 28 :=
      Int.le_trans (skipAmt_mono (y' := 3901) (m' := .february) (by simp only [ymKey]; omega)) (by decide)
    obtain ⟨rfl, hlj⟩ : m = .february ∧ leap .julian y = false := by
      have : ∀ lp m, monthLen lp m = 28 → m = .february ∧ lp = false := by
        intro lp m; cases lp <;> cases m <;> decide
      exact this _ _ (by omega)
    obtain ⟨e1, e2, e3⟩ := isDate_unique (ρ := .julian) ⟨rf.validQ_julian, rfl⟩
      (show IsDate .julian (jdnOf .julian rf.yQ rf.mQ rf.dQ) y .march 1 from
        ⟨by simp [ValidYMD, monthLen], by rw [← heq (by omega)]; simp [jdnOf, daysBefore, monthLen, hlj]; omega⟩)
    rw [e1, e2] at hlab h28 hle
    have : y ≤ 3899 → skipAmt y .march ≤ 27 := fun hy =>
      Int.le_trans (skipAmt_mono (y' := 3899) (m' := .december) (by simp only [ymKey]; omega)) (by decide)
    have hnl : ¬ y % 4 = 0 := by simpa [leap] using hlj
    omega

/-- a wholly skipped year needs at least 365 skipped labels, hence R ≥ 19582149 -/
theorem skipped_year_threshold (y : Int) (h : rf.cal.yearKind y = .skipped) :
    19582149 ≤ rf.R := by
  have ly := yearLen_bounds .julian y
  -- the whole Julian year lies between P and Q: a run of skipped labels
  have hrun : yearLen .julian y ≤ skipAmt rf.yQ rf.mQ
      ∧ (yearLen .julian y = skipAmt rf.yQ rf.mQ →
          jdnOf .julian y .december 31 + 1 = jdnOf .julian rf.yQ rf.mQ rf.dQ) := by
    obtain ⟨b1, b2⟩ := (rf.yearKind_skipped_iff y).mp h
    have hr := rf.skipped_run (y := y) (m := .january) (d := 1) (y' := y) (m' := .december) (d' := 31)
      (validJan1 _ y) (validDec31 _ y) (Or.inl b1) (Or.inl b2)
    rwa [show jdnOf .julian y .december 31 - jdnOf .julian y .january 1 + 1 = yearLen .julian y by
      rw [jdnOf_dec31, jdnOf_jan1]; omega] at hr
  obtain ⟨hle, heq⟩ := hrun
  by_cases c : 19582149 ≤ rf.R
  · exact c
  · exfalso
    -- below 48902-01-01 at most 365 labels are skipped: the year has 365 days and the first
    -- Gregorian date is labelled January 1 of the next year — which skips fewer
    have hlab := (jdnOf_lt_iff rf.hQ.1 (validJan1 _ 48902)).mp
      (by rw [rf.hQ.2, show jdnOf .gregorian 48902 .january 1 = 19582149 by decide]; omega)
    have hjan : Month.january.number = 1 := rfl
    have hfeb := Month.feb_number; have hdec := Month.dec_number
    have bQ := Month.number_bounds rf.mQ
    have vQ := rf.validQ
    have h365 : skipAmt rf.yQ rf.mQ ≤ 365 :=
      Int.le_trans (skipAmt_mono (y' := 48901) (m' := .december) (by simp only [ymKey]; omega)) (by decide)
    obtain ⟨e1, e2, e3⟩ := isDate_unique (ρ := .julian) ⟨rf.validQ_julian, rfl⟩
      (show IsDate .julian (jdnOf .julian rf.yQ rf.mQ rf.dQ) (y + 1) .january 1 from
        ⟨validJan1 _ _, by rw [← heq (by omega), jdnOf_dec31, jdnOf_jan1, yearStart_succ]; omega⟩)
    rw [e1, e2] at hlab h365 hle
    have : y + 1 ≤ 48900 → skipAmt (y + 1) .january ≤ 364 := fun hy =>
      Int.le_trans (skipAmt_mono (y' := 48900) (m' := .february) (by simp only [ymKey]; omega)) (by decide)
    have hnl : ¬ y % 4 = 0 := by
      intro h4; simp [yearLen, leap, h4] at ly hle; omega
    omega

end Reform
end JV
