/-
Lemmas/Walk.lean — the twelve-month walks of `ordinal2ymddo` / `ymdo2ordinal` over
arbitrary (valid) month shapes, by induction over the month list; years all of whose months
are whole.
-/
import JulianVerif.Lemmas.Shape
import JulianVerif.Lemmas.Months
namespace JV
open Spec

namespace Calendar

/-- number of days of month `m` of year `y` (0 for a month that does not exist) -/
def lenOf (c : Calendar) (y : Int) (m : Month) : Int :=
  match c.monthIShape y m with
  | some s => s.len
  | none => 0

theorem lenOf_of_some {c : Calendar} {y : Int} {m : Month} {s : IShape}
    (hs : c.monthIShape y m = some s) : c.lenOf y m = s.len := by
  simp only [lenOf, hs]

theorem lenOf_of_none {c : Calendar} {y : Int} {m : Month} (hs : c.monthIShape y m = none) :
    c.lenOf y m = 0 := by
  simp only [lenOf, hs]

/-- total length of the months of `ms` before `m` — what `ymdo2ordinal` accumulates -/
def sumBefore (c : Calendar) (y : Int) : List Month → Month → Int
  | [], _ => 0
  | x :: xs, m => if x = m then 0 else c.lenOf y x + sumBefore c y xs m

def sumAll (c : Calendar) (y : Int) : List Month → Int
  | [] => 0
  | x :: xs => c.lenOf y x + sumAll c y xs

theorem sumBefore_all (c : Calendar) (y : Int) (m : Month) :
    c.sumBefore y Month.all m = prefixSum (c.lenOf y) m := by
  cases m <;> simp [Calendar.sumBefore, Month.all, prefixSum] <;> omega

theorem sumAll_all (c : Calendar) (y : Int) :
    c.sumAll y Month.all = prefixSum (c.lenOf y) .december + c.lenOf y .december := by
  simp [Calendar.sumAll, Month.all, prefixSum]; omega

theorem ordinal2ymddo_ok_range {c : Calendar} {y o : Int} {r : Month × Int × Int}
    (h : c.ordinal2ymddo y o = .ok r) : 1 ≤ o ∧ o ≤ c.yearLength y := by
  simp only [ordinal2ymddo] at h
  split at h
  · cases h
  · rename_i hc
    simp only [Bool.or_eq_true, decide_eq_true_eq, not_or, Int.not_lt, gt_iff_lt] at hc
    omega

theorem ordinal2ymddo_err {c : Calendar} {y o : Int} (h : ¬ (1 ≤ o ∧ o ≤ c.yearLength y)) :
    c.ordinal2ymddo y o = .error (.ordinalOutOfRange y o (c.yearLength y)) := by
  rw [ordinal2ymddo, if_pos (by simp only [Bool.or_eq_true, decide_eq_true_eq]; omega)]

section
variable (c : Calendar) (y : Int)

theorem ymdo2ordinalLoop_eq (m : Month) (k : Int) (ms : List Month) (acc : Int) (h : m ∈ ms) :
    c.ymdo2ordinalLoop y m k ms acc = acc + c.sumBefore y ms m + k := by
  fun_induction ymdo2ordinalLoop c y m k ms acc with
  | case1 acc => cases h
  | case2 x xs acc hx => simp only [sumBefore, eq_of_beq hx, if_true]; omega
  | case3 x xs acc hx s hs ih =>
    have hne : x ≠ m := fun e => hx (e ▸ beq_self_eq_true x)
    rw [ih ((List.mem_cons.mp h).resolve_left (Ne.symm hne)), sumBefore, if_neg hne, lenOf_of_some hs]
    omega
  | case4 x xs acc hx hs ih =>
    have hne : x ≠ m := fun e => hx (e ▸ beq_self_eq_true x)
    rw [ih ((List.mem_cons.mp h).resolve_left (Ne.symm hne)), sumBefore, if_neg hne, lenOf_of_none hs]
    omega

theorem ymdo2ordinal_eq (m : Month) (k : Int) :
    c.ymdo2ordinal y m k = prefixSum (c.lenOf y) m + k := by
  rw [ymdo2ordinal, ymdo2ordinalLoop_eq c y m k Month.all 0 (Month.mem_all m), sumBefore_all]
  omega

/-- the walk of `ordinal2ymddo`: for `1 ≤ days ≤` the total length of the listed months it
stops in the month `m` containing that day, with in-month ordinal
`days - sumBefore ms m` -/
theorem ordinal2ymddoLoop_spec (ms : List Month) (days : Int) (hnd : ms.Nodup)
    (hv : ∀ m ∈ ms, ∀ s, c.monthIShape y m = some s → s.Valid)
    (h1 : 1 ≤ days) (h2 : days ≤ c.sumAll y ms) :
    ∃ m s day, m ∈ ms ∧ c.monthIShape y m = some s
      ∧ c.ordinal2ymddoLoop y ms days = .ok (m, day, days - c.sumBefore y ms m)
      ∧ s.nthDay (days - c.sumBefore y ms m) = some day
      ∧ 1 ≤ days - c.sumBefore y ms m ∧ days - c.sumBefore y ms m ≤ s.len := by
  -- along the walk itself: the day is in the first month iff `nth_day` finds it there; otherwise the
  -- walk goes on with `days` less that month's length, which is what `sumBefore` adds up
  fun_induction ordinal2ymddoLoop c y ms days with
  | case1 days => simp only [sumAll] at h2; omega
  | case2 x xs days sx hs d hd =>
    have hin := ((sx.nthDay_some_iff (hv x List.mem_cons_self sx hs) days (by omega)).mp ⟨d, hd⟩).2
    refine ⟨x, sx, d, List.mem_cons_self, hs, ?_⟩
    simp only [sumBefore, if_true, Int.sub_zero]
    exact ⟨trivial, hd, h1, hin⟩
  | case3 x xs days sx hs hd ih =>
    -- `nth_day` declined although `1 ≤ days`: the month is shorter than `days`
    have hlen : ¬ days ≤ sx.len := fun a => by
      obtain ⟨_, e⟩ := (sx.nthDay_some_iff (hv x List.mem_cons_self sx hs) days (by omega)).mpr ⟨h1, a⟩
      rw [hd] at e; cases e
    simp only [sumAll, lenOf_of_some hs] at h2
    obtain ⟨m, s, day, hm, hms, r⟩ := ih (List.nodup_cons.mp hnd).2
      (fun m hm => hv m (List.mem_cons_of_mem _ hm)) (by omega) (by omega)
    have hne : x ≠ m := fun e => (List.nodup_cons.mp hnd).1 (e ▸ hm)
    refine ⟨m, s, day, List.mem_cons_of_mem _ hm, hms, ?_⟩
    simp only [sumBefore, hne, if_false, lenOf_of_some hs,
      show days - (sx.len + sumBefore c y xs m) = days - sx.len - sumBefore c y xs m by omega]
    exact r
  | case4 x xs days hs ih =>
    simp only [sumAll, lenOf_of_none hs, Int.zero_add] at h2
    obtain ⟨m, s, day, hm, hms, r⟩ := ih (List.nodup_cons.mp hnd).2
      (fun m hm => hv m (List.mem_cons_of_mem _ hm)) h1 h2
    have hne : x ≠ m := fun e => (List.nodup_cons.mp hnd).1 (e ▸ hm)
    refine ⟨m, s, day, List.mem_cons_of_mem _ hm, hms, ?_⟩
    simp only [sumBefore, hne, if_false, lenOf_of_none hs, Int.zero_add]
    exact r

variable (hvalid : ∀ m ∈ Month.all, ∀ s, c.monthIShape y m = some s → s.Valid)
include hvalid

theorem lenOf_nonneg (m : Month) : 0 ≤ c.lenOf y m := by
  simp only [lenOf]
  cases h : c.monthIShape y m with
  | none => exact Int.le_refl 0
  | some s => exact s.len_nonneg (hvalid m (Month.mem_all m) s h)

theorem month_end_le (m : Month) :
    prefixSum (c.lenOf y) m + c.lenOf y m ≤ c.sumAll y Month.all := by
  have hL := c.lenOf_nonneg y hvalid
  have bm := Month.number_bounds m
  rw [sumAll_all]
  rcases Int.lt_or_eq_of_le bm.2 with a | a
  · have := prefixSum_mono _ hL m .december a
    have := hL .december
    omega
  · cases Month.number_inj m .december a; exact Int.le_refl _

variable (hlen : c.yearLength y = c.sumAll y Month.all)
include hlen

theorem ordinal2ymddo_of_range {o : Int} (h1 : 1 ≤ o) (h2 : o ≤ c.yearLength y) :
    ∃ m s day, c.monthIShape y m = some s
      ∧ c.ordinal2ymddo y o = .ok (m, day, o - prefixSum (c.lenOf y) m)
      ∧ s.nthDay (o - prefixSum (c.lenOf y) m) = some day
      ∧ 1 ≤ o - prefixSum (c.lenOf y) m ∧ o - prefixSum (c.lenOf y) m ≤ s.len := by
  obtain ⟨m, s, day, _, hs, hl, hn, hk⟩ :=
    ordinal2ymddoLoop_spec c y Month.all o Month.all_nodup hvalid h1 (hlen ▸ h2)
  rw [sumBefore_all] at hl hn hk
  have hrange : (decide (o < 1) || decide (o > c.yearLength y)) = false := by simp; omega
  exact ⟨m, s, day, hs, by simp only [ordinal2ymddo, hrange, Bool.false_eq_true, if_false, hl], hn, hk⟩

/-- the month walk: day-of-year `o` is day `day`, the `k`-th, of month `m` exactly when
`k` further days after the months before `m` make `o`, and the `k`-th day of `m` is `day` -/
theorem ordinal2ymddo_ok_iff {o : Int} {m : Month} {day k : Int} :
    c.ordinal2ymddo y o = .ok (m, day, k) ↔
      ∃ s, c.monthIShape y m = some s ∧ s.nthDay k = some day ∧ 1 ≤ k
        ∧ o = prefixSum (c.lenOf y) m + k := by
  have hL := c.lenOf_nonneg y hvalid
  constructor
  · intro h
    have hr := ordinal2ymddo_ok_range h
    obtain ⟨m', s', day', hs', hl, hn', hk1, _⟩ := c.ordinal2ymddo_of_range y hvalid hlen hr.1 hr.2
    rw [hl] at h
    obtain ⟨rfl, rfl, rfl⟩ := h
    exact ⟨s', hs', hn', hk1, by omega⟩
  · rintro ⟨s, hs, hn, hk1, rfl⟩
    have hk2 := ((s.nthDay_some_iff (hvalid m (Month.mem_all m) s hs) k (by omega)).mp ⟨day, hn⟩).2
    have hLm := lenOf_of_some hs
    have hp0 := prefixSum_nonneg _ hL m
    have hend := c.month_end_le y hvalid m
    obtain ⟨m', s', day', hs', hl, hn', hk1', hk2'⟩ :=
      c.ordinal2ymddo_of_range y hvalid hlen (o := prefixSum (c.lenOf y) m + k) (by omega) (by omega)
    have hLm' := lenOf_of_some hs'
    -- the day ranges of different months do not overlap
    have hmm : m' = m := by
      rcases Int.lt_trichotomy m'.number m.number with a | a | a
      · have := prefixSum_mono _ hL m' m a; omega
      · exact Month.number_inj _ _ a
      · have := prefixSum_mono _ hL m m' a; omega
    subst hmm
    rw [hs] at hs'; cases hs'
    rw [show prefixSum (c.lenOf y) m' + k - prefixSum (c.lenOf y) m' = k by omega] at hl hn'
    rw [hn] at hn'; cases hn'
    exact hl

end

end Calendar

theorem atJdn?_parts {c : Calendar} {j : Int} {d : Date} (h : c.atJdn? j = some d) :
    d.calendar = c ∧ d.jdn = j
    ∧ c.ordinal2ymddo d.year d.ordinal = .ok (d.month, d.day, d.dayOrdinal) := by
  revert h
  fun_cases Calendar.atJdn? c j with
  | case1 year ordinal _ m dd k hm => rintro ⟨⟩; exact ⟨rfl, rfl, hm⟩
  | case2 => nofun

/-- a year of calendar `c` all of whose months are whole, with leap flag `lp` -/
def WholeYear (c : Calendar) (y : Int) (lp : Bool) : Prop :=
  ∀ m, c.monthIShape y m = some (.normal (monthLen lp m))

namespace WholeYear
variable {c : Calendar} {y : Int} {lp : Bool}

theorem lenOf (hw : WholeYear c y lp) (m : Month) : c.lenOf y m = monthLen lp m := by
  simp only [Calendar.lenOf, hw m, IShape.len]

theorem prefixSum_eq (hw : WholeYear c y lp) (m : Month) :
    prefixSum (c.lenOf y) m = daysBefore lp m := by
  rw [← prefixSum_monthLen]; exact prefixSum_congr_before _ _ m (fun m' _ => hw.lenOf m')

theorem sumAll (hw : WholeYear c y lp) : c.sumAll y Month.all = if lp then 366 else 365 := by
  rw [Calendar.sumAll_all, hw.prefixSum_eq, hw.lenOf, daysBefore_december]

theorem valid (hw : WholeYear c y lp) : ∀ m ∈ Month.all, ∀ s, c.monthIShape y m = some s → s.Valid := by
  intro m _ s hs
  rw [hw m] at hs
  cases hs
  have := monthLen_bounds lp m
  simp only [IShape.Valid]; omega

theorem ymdo2ordinal (hw : WholeYear c y lp) (m : Month) (k : Int) :
    c.ymdo2ordinal y m k = daysBefore lp m + k := by
  rw [Calendar.ymdo2ordinal_eq, hw.prefixSum_eq]

end WholeYear

end JV
