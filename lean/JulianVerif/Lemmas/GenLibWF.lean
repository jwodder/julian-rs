/-
Lemmas/GenLibWF.lean — every calendar a caller can hold satisfies the precondition of the
generated `cmp_year` / `cmp_year_month` (`GapOrdered`), so for such calendars the functions
generated from lib.rs (Model/GenLib.lean) are the hand-written checked model, and through
Lemmas/Checked*.lean the unbounded model.
-/
import JulianVerif.Lemmas.GenLib
import JulianVerif.Lemmas.AtJdn
namespace JV.Gen

theorem WF.gapOrdered {c : Calendar} (h : WF c) : GapOrdered c := by
  rcases h.cases with rfl | rfl | ⟨rf, rfl, _, _⟩
  · exact gapOrdered_julian
  · exact gapOrdered_gregorian
  · intro g hg
    simp only [Reform.cal, Calendar.gap, Option.some.injEq] at hg
    subst hg
    simpa only [mkGap] using rf.ym_le

end JV.Gen
