/-
Lemmas/Time.lean — what a successful `unix2jdn` / `system2jdn` tells: the day fits 32 bits (the range check
comes before the narrowing cast) and the second of day is the Euclidean remainder.
-/
import JulianVerif.Model.Time
import JulianVerif.Lemmas.Ranges
namespace JV

theorem unix2jdn_eq_some {t j s : Int} (h : unix2jdn t = some (j, s)) :
    j = t / 86400 + 2440588 ∧ s = t % 86400 ∧ InI32 j := by
  simp only [unix2jdn] at h
  by_cases hc : inI32 (t / 86400 + 2440588) = true
  · rw [if_pos hc] at h; cases h; exact ⟨rfl, rfl, (inI32_iff _).mp hc⟩
  · rw [if_neg hc] at h; cases h

theorem system2jdn_inI32 {before : Bool} {secs nanos j s : Int}
    (h : system2jdn before secs nanos = some (j, s)) : InI32 j := by
  simp only [system2jdn] at h
  by_cases h1 : secs > 9223372036854775807
  · rw [if_pos h1] at h; cases h
  · rw [if_neg h1] at h
    cases before
    · exact (unix2jdn_eq_some h).2.2
    · exact (unix2jdn_eq_some h).2.2

end JV
