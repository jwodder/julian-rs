/-
Lemmas/CalOrder.lean — the key that `impl Ord for Calendar` compares, and `cmp` in terms of it.
-/
import JulianVerif.Model.Calendar
namespace JV

/-- rank of a calendar in the hand-written `Ord`: Julian < reforming(R) by R < Gregorian -/
def calKey : Calendar → Int × Int
  | .julian => (0, 0)
  | .reforming r _ => (1, r)
  | .gregorian => (2, 0)

def keyLt (p q : Int × Int) : Prop := p.1 < q.1 ∨ (p.1 = q.1 ∧ p.2 < q.2)

theorem cal_cmp_lt (a b : Calendar) : a.cmp b = .lt ↔ keyLt (calKey a) (calKey b) := by
  cases a <;> cases b <;> simp [Calendar.cmp, calKey, keyLt, Int.compare_eq_lt]

theorem cal_cmp_eq (a b : Calendar) : a.cmp b = .eq ↔ calKey a = calKey b := by
  cases a <;> cases b <;> simp [Calendar.cmp, calKey]

theorem cal_cmp_gt (a b : Calendar) : a.cmp b = .gt ↔ keyLt (calKey b) (calKey a) := by
  cases a <;> cases b <;> simp [Calendar.cmp, calKey, keyLt, Int.compare_eq_gt]

end JV
