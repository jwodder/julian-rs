/-
Lemmas/CliOpts.lean — `Command::from_parser` on argument vectors built from the documented
options: flags in any position, which calendar an option selects (`calOf`, `apply_calendar`; that
the last -j / -r wins is `C18.last_calendar_wins`), positional arguments and negative numbers
pass through in order.
-/
import JulianVerif.Lemmas.CliStep
namespace JV
namespace Cli

/-- `-j`, `-J`, `-o`, `-q`, `-s` -/
def Flag.short : Flag → Bytes
  | .julian => [45, 106] | .json => [45, 74] | .ordinal => [45, 111]
  | .quiet => [45, 113] | .style => [45, 115]

/-- `--julian`, `--json`, `--ordinal`, `--quiet`, `--style` -/
def Flag.long : Flag → Bytes
  | .julian => [45, 45, 106, 117, 108, 105, 97, 110]
  | .json => [45, 45, 106, 115, 111, 110]
  | .ordinal => [45, 45, 111, 114, 100, 105, 110, 97, 108]
  | .quiet => [45, 45, 113, 117, 105, 101, 116]
  | .style => [45, 45, 115, 116, 121, 108, 101]

def Flag.byte : Flag → UInt8
  | .julian => 106 | .json => 74 | .ordinal => 111 | .quiet => 113 | .style => 115

def clusterArg (fs : List Flag) : Bytes := 45 :: fs.map Flag.byte

/-- one element of a command line -/
inductive Tok where
  /-- a positional argument that does not look like an option -/
  | plain (b : Bytes) (s : String)
  /-- `-` digit …: a negative number (or a date with a negative year) -/
  | neg (k : Fin 10) (rest : Bytes) (s : String)
  | short (f : Flag)
  | long (f : Flag)
  /-- `-r VALUE` as two arguments -/
  | reformShort (v : Bytes) (s : String) (cal : Calendar)
  /-- `--reformation VALUE` as two arguments -/
  | reformLong (v : Bytes) (s : String) (cal : Calendar)
  /-- `-rVALUE` (`eq = false`) or `-r=VALUE` (`eq = true`) as one argument -/
  | reformAttached (eq : Bool) (v : Bytes) (s : String) (cal : Calendar)
  /-- `--reformation=VALUE` as one argument -/
  | reformLongEq (v : Bytes) (s : String) (cal : Calendar)
  /-- several switches in one argument: `-jq`, `-oqs`, … -/
  | cluster (fs : List Flag)

def digitByte (k : Fin 10) : UInt8 := (48 + k.val).toUInt8

/-- the raw arguments a token stands for -/
def Tok.encode : Tok → List Bytes
  | .plain b _ => [b]
  | .neg k rest _ => [45 :: digitByte k :: rest]
  | .short f => [f.short]
  | .long f => [f.long]
  | .reformShort v _ _ => [[45, 114], v]
  | .reformLong v _ _ => [[45, 45, 114, 101, 102, 111, 114, 109, 97, 116, 105, 111, 110], v]
  | .reformAttached eq v _ _ => [45 :: 114 :: ((if eq then [61] else []) ++ v)]
  | .reformLongEq v _ _ =>
    [45 :: 45 :: 114 :: 101 :: 102 :: 111 :: 114 :: 109 :: 97 :: 116 :: 105 :: 111 :: 110 :: 61 :: v]
  | .cluster fs => [clusterArg fs]

/-- the side conditions: how the bytes decode, and what makes a positional argument one -/
def Tok.Ok : Tok → Prop
  | .plain b s => bytesToString? b = some s ∧ ¬ (b.length > 1 ∧ b.head? = some 45)
  | .neg _ rest s => (rest = [] ∧ s = "") ∨ (rest ≠ [] ∧ rest.head? ≠ some 61 ∧ bytesToString? rest = some s)
  | .short _ => True
  | .long _ => True
  | .reformShort v s cal => bytesToString? v = some s ∧ parseReformation s = some cal
  | .reformLong v s cal => bytesToString? v = some s ∧ parseReformation s = some cal
  | .reformAttached eq v s cal =>
    (eq = false → v ≠ [] ∧ v.head? ≠ some 61) ∧ bytesToString? v = some s ∧ parseReformation s = some cal
  | .reformLongEq v s cal => bytesToString? v = some s ∧ parseReformation s = some cal
  | .cluster fs => fs ≠ []

def Tok.apply (o : Options) : Tok → Options
  | .short f => f.apply o
  | .long f => f.apply o
  | .reformShort _ _ cal => { o with calendar := cal }
  | .reformLong _ _ cal => { o with calendar := cal }
  | .reformAttached _ _ _ cal => { o with calendar := cal }
  | .reformLongEq _ _ cal => { o with calendar := cal }
  | .cluster fs => fs.foldl Flag.apply o
  | _ => o

/-- the positional argument a token contributes -/
def Tok.arg : Tok → Option String
  | .plain _ s => some s
  | .neg k _ s => some ("-" ++ (Char.ofNat (digitByte k).toNat).toString ++ s)
  | _ => none

theorem Flag.short_eq (f : Flag) : f.short = clusterArg [f] := by cases f <;> rfl

theorem shortAction_flag (f : Flag) : shortAction (Char.ofNat f.byte.toNat) = .flag f := by
  cases f <;> rfl

theorem flag_byte_facts (f : Flag) : f.byte < 128 ∧ f.byte ≠ 61 ∧ f.byte ≠ 45 := by
  cases f <;> decide

theorem Flag.long_eq (f : Flag) :
    ∃ name, f.long = 45 :: 45 :: name ∧ name ≠ [] ∧ 61 ∉ name ∧ longAction name = .flag f := by
  cases f <;> exact ⟨_, rfl, by decide, by decide, by decide +kernel⟩

/-- inside a cluster of switches: `done` have been read, `rest` are to come -/
theorem parse_flags (src : List Bytes) (args : List String) :
    ∀ (rest done : List Flag) (o : Options),
      parse ⟨.shorts (clusterArg (done ++ rest)) (1 + done.length), src⟩ o args
        = parse ⟨.none, src⟩ (rest.foldl Flag.apply o) args
  | [], done, o => parse_congr (next_shorts_end (by simp [clusterArg]; omega) src) o args
  | r :: rs, done, o => by
    obtain ⟨h1, h2, _⟩ := flag_byte_facts r
    have hb : (clusterArg (done ++ r :: rs))[1 + done.length]? = some r.byte := by
      simp [clusterArg, Nat.add_comm 1]
    rw [parse_of_more ((step_short o args (next_shorts hb h1 (.inl h2) src)).trans
      (by rw [shortAction_flag]; rfl))]
    have := parse_flags src args rs (done ++ [r]) (r.apply o)
    simpa [Nat.add_assoc, Nat.add_comm 1] using this

theorem parse_cluster (fs : List Flag) (hne : fs ≠ []) (src : List Bytes) (o : Options)
    (args : List String) :
    parse ⟨.none, clusterArg fs :: src⟩ o args = parse ⟨.none, src⟩ (fs.foldl Flag.apply o) args := by
  obtain ⟨f, fs, rfl⟩ := List.exists_cons_of_ne_nil hne
  exact (parse_congr (next_dash (flag_byte_facts f).2.2 _ src) o args).trans
    (parse_flags src args (f :: fs) [] o)

theorem parse_plain {b : Bytes} {s : String} (hb : bytesToString? b = some s)
    (hn : ¬ (b.length > 1 ∧ b.head? = some 45)) (src : List Bytes) (o : Options)
    (args : List String) : parse ⟨.none, b :: src⟩ o args = parse ⟨.none, src⟩ o (s :: args) :=
  parse_of_more (step_value o args (next_value hn src) hb)

theorem parse_long (f : Flag) (src : List Bytes) (o : Options) (args : List String) :
    parse ⟨.none, f.long :: src⟩ o args = parse ⟨.none, src⟩ (f.apply o) args := by
  obtain ⟨name, e, hne, h61, ha⟩ := f.long_eq
  rw [e, parse_of_more ((step_long o args (next_long hne h61 src)).trans (by rw [ha]; rfl))]

/-- `-r` in a cluster of its own: with the value attached (after an optional `=`), or with the
value in the next raw argument -/
theorem parse_reformShorts {r v : Bytes} {s : String} {cal : Calendar} {src src' : List Bytes}
    (hp : Parser.value ⟨.shorts (45 :: 114 :: r) 2, src⟩ = some (v, ⟨.none, src'⟩))
    (hv : bytesToString? v = some s) (hc : parseReformation s = some cal) (o : Options)
    (args : List String) :
    parse ⟨.none, (45 :: 114 :: r) :: src⟩ o args
      = parse ⟨.none, src'⟩ { o with calendar := cal } args :=
  parse_of_more ((step_dash (by decide) (by decide) r src o args).trans
    (takeReformation_ok o args hp hv hc))

theorem longAction_reformation :
    longAction [114, 101, 102, 111, 114, 109, 97, 116, 105, 111, 110] = .reform := by decide +kernel

theorem parse_reformLongs {w v : Bytes} {s : String} {cal : Calendar} {st : LState}
    {src src' : List Bytes}
    (hn : Parser.next ⟨.none, w :: src⟩
      = .arg (.long [114, 101, 102, 111, 114, 109, 97, 116, 105, 111, 110]) ⟨st, src⟩)
    (hp : Parser.value ⟨st, src⟩ = some (v, ⟨.none, src'⟩))
    (hv : bytesToString? v = some s) (hc : parseReformation s = some cal) (o : Options)
    (args : List String) :
    parse ⟨.none, w :: src⟩ o args = parse ⟨.none, src'⟩ { o with calendar := cal } args :=
  parse_of_more ((step_long o args hn).trans
    (longAction_reformation ▸ takeReformation_ok o args hp hv hc))

theorem digitByte_facts (k : Fin 10) :
    digitByte k < 128 ∧ digitByte k ≠ 45
      ∧ shortAction (Char.ofNat (digitByte k).toNat) = .digit (Char.ofNat (digitByte k).toNat) := by
  revert k; decide

theorem parse_neg (k : Fin 10) {rest : Bytes} {s : String}
    (hok : (rest = [] ∧ s = "") ∨ (rest ≠ [] ∧ rest.head? ≠ some 61 ∧ bytesToString? rest = some s))
    (src : List Bytes) (o : Options) (args : List String) :
    parse ⟨.none, (45 :: digitByte k :: rest) :: src⟩ o args
      = parse ⟨.none, src⟩ o (("-" ++ (Char.ofNat (digitByte k).toNat).toString ++ s) :: args) := by
  obtain ⟨h1, h2, h3⟩ := digitByte_facts k
  refine parse_of_more ((step_dash h2 h1 rest src o args).trans ?_)
  rw [h3]
  rcases hok with ⟨rfl, rfl⟩ | ⟨hne, hh, hb⟩
  · rw [String.append_empty]
    exact takeDigit_none o args _ (optionalValue_shorts _ [] src)
  · exact takeDigit_some o args _ ((optionalValue_shorts _ rest src).trans (by rw [if_neg hne, if_neg hh])) hb

theorem parse_tok (t : Tok) (ht : t.Ok) (src : List Bytes) (o : Options) (args : List String) :
    parse ⟨.none, t.encode ++ src⟩ o args
      = parse ⟨.none, src⟩ (t.apply o) (t.arg.toList ++ args) := by
  cases t with
  | plain b s => exact parse_plain ht.1 ht.2 src o args
  | neg k rest s => exact parse_neg k ht src o args
  | short f =>
    show parse ⟨.none, f.short :: src⟩ o args = _
    rw [f.short_eq]; exact parse_cluster [f] (List.cons_ne_nil _ _) src o args
  | long f => exact parse_long f src o args
  | reformShort v s cal =>
    exact parse_reformShorts (value_shorts_end (Nat.le_refl 2) v src) ht.1 ht.2 o args
  | reformLong v s cal =>
    exact parse_reformLongs (next_long (by decide) (by decide) _) rfl ht.1 ht.2 o args
  | reformAttached eq v s cal =>
    refine parse_reformShorts ?_ ht.2.1 ht.2.2 o args
    simp only [Parser.value, optionalValue_shorts]
    cases eq with
    | true => simp
    | false =>
      obtain ⟨hne, hh⟩ := ht.1 rfl
      simp [hne, hh]
  | reformLongEq v s cal =>
    exact parse_reformLongs (next_longEq (by decide) v src) rfl ht.1 ht.2 o args
  | cluster fs => exact parse_cluster fs ht src o args

theorem parse_toks (toks : List Tok) (hok : ∀ t ∈ toks, t.Ok) (src : List Bytes) (o : Options)
    (args : List String) :
    parse ⟨.none, toks.flatMap Tok.encode ++ src⟩ o args
      = parse ⟨.none, src⟩ (toks.foldl Tok.apply o) ((toks.filterMap Tok.arg).reverse ++ args) := by
  induction toks generalizing o args with
  | nil => rfl
  | cons t ts ih =>
    rw [List.flatMap_cons, List.append_assoc, parse_tok t (hok t (List.mem_cons_self ..)),
      ih fun t' ht' => hok t' (List.mem_cons_of_mem _ ht')]
    cases ha : t.arg <;> simp [ha]

theorem parse_spec (toks : List Tok) (hok : ∀ t ∈ toks, t.Ok) :
    parseCommand (toks.flatMap Tok.encode)
      = .run (toks.foldl Tok.apply {}) (toks.filterMap Tok.arg) := by
  have := parse_toks toks hok [] {} []
  rw [List.append_nil] at this
  rw [parseCommand_eq_parse, this, parse_of_stop (step_done _ _ rfl)]
  simp

def Early.short : Early → Bytes
  | .countries => [45, 99] | .help => [45, 104] | .version => [45, 86]

def Early.long : Early → Bytes
  | .countries => [45, 45, 99, 111, 117, 110, 116, 114, 105, 101, 115]
  | .help => [45, 45, 104, 101, 108, 112]
  | .version => [45, 45, 118, 101, 114, 115, 105, 111, 110]

theorem Early.long_eq (e : Early) :
    ∃ name, e.long = 45 :: 45 :: name ∧ name ≠ [] ∧ 61 ∉ name ∧ longAction name = .exit e := by
  cases e <;> exact ⟨_, rfl, by decide, by decide, by decide +kernel⟩

theorem parseCommand_early (toks : List Tok) (hok : ∀ t ∈ toks, t.Ok) (e : Early)
    (post : List Bytes) :
    parseCommand (toks.flatMap Tok.encode ++ e.short :: post) = e.command
    ∧ parseCommand (toks.flatMap Tok.encode ++ e.long :: post) = e.command := by
  simp only [parseCommand_eq_parse, parse_toks toks hok]
  constructor
  · cases e <;> exact parse_of_stop ((step_dash (by decide) (by decide) [] post _ _).trans rfl)
  · obtain ⟨name, h, hne, h61, ha⟩ := e.long_eq
    rw [h]
    exact parse_of_stop ((step_long _ _ (next_long hne h61 post)).trans (ha ▸ rfl))

/-- **`-h`, `-V`, `-c` and their long spellings are honoured whatever positional arguments
and switches precede them and whatever follows** — the positional arguments are not even
looked at -/
theorem early_exit (toks : List Tok) (hok : ∀ t ∈ toks, t.Ok) (post : List Bytes) :
    parseCommand (toks.flatMap Tok.encode ++ [45, 104] :: post) = .help
    ∧ parseCommand (toks.flatMap Tok.encode ++ [45, 86] :: post) = .version
    ∧ parseCommand (toks.flatMap Tok.encode ++ [45, 99] :: post) = .countries
    ∧ parseCommand (toks.flatMap Tok.encode ++ [45, 45, 104, 101, 108, 112] :: post) = .help
    ∧ parseCommand (toks.flatMap Tok.encode ++ [45, 45, 118, 101, 114, 115, 105, 111, 110] :: post) = .version
    ∧ parseCommand (toks.flatMap Tok.encode ++ [45, 45, 99, 111, 117, 110, 116, 114, 105, 101, 115] :: post)
        = .countries :=
  ⟨(parseCommand_early toks hok .help post).1, (parseCommand_early toks hok .version post).1,
    (parseCommand_early toks hok .countries post).1, (parseCommand_early toks hok .help post).2,
    (parseCommand_early toks hok .version post).2, (parseCommand_early toks hok .countries post).2⟩

theorem parse_finished (vals : List (Bytes × String))
    (hv : ∀ v ∈ vals, bytesToString? v.1 = some v.2) (o : Options) (args : List String) :
    parse ⟨.finishedOpts, vals.map (·.1)⟩ o args = .run o (args.reverse ++ vals.map (·.2)) := by
  induction vals generalizing args with
  | nil => rw [parse_of_stop (step_done _ _ rfl)]; simp
  | cons v vs ih =>
    rw [parse_of_more (step_value o args (q := ⟨.finishedOpts, vs.map (·.1)⟩) rfl
        (hv v (List.mem_cons_self ..))),
      ih (fun x hx => hv x (List.mem_cons_of_mem _ hx))]
    simp

/-- the calendar a token selects, if any -/
def calOf : Tok → Option Calendar
  | .short .julian | .long .julian => some .julian
  | .reformShort _ _ c | .reformLong _ _ c | .reformAttached _ _ _ c | .reformLongEq _ _ c => some c
  | .cluster fs => if fs.contains .julian then some .julian else none
  | _ => none

theorem flag_beq (a b : Flag) : (a == b) = decide (a = b) := rfl

theorem Flag.apply_switches (f : Flag) (o : Options) :
    (f.apply o).json = (o.json || f == .json) ∧ (f.apply o).ordinal = (o.ordinal || f == .ordinal)
    ∧ (f.apply o).quiet = (o.quiet || f == .quiet) ∧ (f.apply o).style = (o.style || f == .style) := by
  cases f <;> simp [Flag.apply, flag_beq]

theorem flags_calendar (fs : List Flag) (o : Options) :
    (fs.foldl Flag.apply o).calendar = if fs.contains .julian then .julian else o.calendar := by
  induction fs generalizing o with
  | nil => rfl
  | cons f fs ih =>
    simp only [List.foldl_cons, ih, List.contains_cons]
    cases f <;> simp [Flag.apply] <;> split <;> rfl

theorem flags_switches (fs : List Flag) (o : Options) :
    (fs.foldl Flag.apply o).json = (o.json || fs.contains .json)
    ∧ (fs.foldl Flag.apply o).ordinal = (o.ordinal || fs.contains .ordinal)
    ∧ (fs.foldl Flag.apply o).quiet = (o.quiet || fs.contains .quiet)
    ∧ (fs.foldl Flag.apply o).style = (o.style || fs.contains .style) := by
  induction fs generalizing o with
  | nil => simp
  | cons f fs ih =>
    obtain ⟨h1, h2, h3, h4⟩ := ih (f.apply o)
    obtain ⟨g1, g2, g3, g4⟩ := f.apply_switches o
    simp only [List.foldl_cons, h1, h2, h3, h4, g1, g2, g3, g4, List.contains_cons, Bool.or_assoc,
      Bool.beq_comm (a := f), and_self]

theorem apply_calendar (o : Options) (t : Tok) :
    (t.apply o).calendar = (calOf t).getD o.calendar := by
  cases t with
  | short f => cases f <;> rfl
  | long f => cases f <;> rfl
  | cluster fs =>
    simp only [Tok.apply, calOf, flags_calendar]
    split <;> rfl
  | _ => rfl

/-- does the token set switch `f`? -/
def has (f : Flag) : Tok → Bool
  | .short g | .long g => g == f
  | .cluster fs => fs.contains f
  | _ => false

end Cli
end JV
