/-
Lemmas/YearStart.lean — years tile the line, so labels are ordered like their day numbers, and unique.
-/
import JulianVerif.Lemmas.Months
namespace JV
open Spec

theorem yearLen_bounds (ρ : Rule) (y : Int) : 365 ≤ yearLen ρ y ∧ yearLen ρ y ≤ 366 := by
  simp only [yearLen]; split <;> omega

theorem yearStart_add_nat (ρ : Rule) (y : Int) (n : Nat) :
    yearStart ρ y + 365 * n ≤ yearStart ρ (y + n) := by
  induction n with
  | zero => simp
  | succ k ih =>
    have h := yearStart_succ ρ (y + k)
    have hb := yearLen_bounds ρ (y + k)
    have e : y + ((k + 1 : Nat) : Int) = y + k + 1 := by omega
    rw [e, h]
    omega

theorem yearStart_lt (ρ : Rule) (y y' : Int) (h : y < y') :
    yearStart ρ y + yearLen ρ y ≤ yearStart ρ y' := by
  obtain ⟨n, hn⟩ : ∃ n : Nat, y' = y + 1 + n := ⟨(y' - y - 1).toNat, by omega⟩
  subst hn
  have h1 := yearStart_add_nat ρ (y + 1) n
  have h2 := yearStart_succ ρ y
  omega

theorem yearStart_mono (ρ : Rule) (y y' : Int) (h : y ≤ y') : yearStart ρ y ≤ yearStart ρ y' := by
  rcases Int.lt_or_eq_of_le h with h | h
  · have := yearStart_lt ρ y y' h
    have := yearLen_bounds ρ y
    omega
  · subst h; exact Int.le_refl _

theorem jdnOf_bounds (ρ : Rule) (y : Int) (m : Month) (d : Int) (hv : ValidYMD ρ y m d) :
    yearStart ρ y ≤ jdnOf ρ y m d ∧ jdnOf ρ y m d < yearStart ρ y + yearLen ρ y := by
  have hb := daysBefore_bounds (leap ρ y) m
  simp only [jdnOf, ValidYMD, yearLen] at *
  omega

theorem IsDate.doy {ρ : Rule} {j y : Int} {m : Month} {d : Int} (h : IsDate ρ j y m d) :
    j = yearStart ρ y + (daysBefore (leap ρ y) m + d) - 1
      ∧ 1 ≤ daysBefore (leap ρ y) m + d ∧ daysBefore (leap ρ y) m + d ≤ yearLen ρ y := by
  have := daysBefore_bounds (leap ρ y) m
  simp only [IsDate, ValidYMD, jdnOf, yearLen] at *; omega

/-- the years whose days have 32-bit day numbers -/
theorem year_of_jdn_inI32 {ρ : Rule} {j y : Int} {m : Month} {d : Int} (hj : InI32 j)
    (h : IsDate ρ j y m d) : InI32 y ∧ -5884400 ≤ y ∧ y ≤ 5874900 := by
  obtain ⟨hv, hjd⟩ := h
  have hb := daysBefore_bounds (leap ρ y) m
  have : (if leap ρ y = true then (366 : Int) else 365) ≤ 366 := by split <;> omega
  cases ρ <;> simp only [jdnOf, yearStart, ValidYMD] at * <;> omega

theorem validDec31 (ρ : Rule) (y : Int) : ValidYMD ρ y .december 31 := by
  simp [ValidYMD, monthLen]

theorem validJan1 (ρ : Rule) (y : Int) : ValidYMD ρ y .january 1 := by
  simp [ValidYMD, monthLen]

theorem validFeb29 (ρ : Rule) (y : Int) : ValidYMD ρ y .february 29 ↔ leap ρ y = true := by
  cases h : leap ρ y <;> simp [ValidYMD, monthLen, h]

theorem jdnOf_jan1 (ρ : Rule) (y : Int) : jdnOf ρ y .january 1 = yearStart ρ y := by
  simp only [jdnOf, daysBefore]; omega

theorem jdnOf_dec31 (ρ : Rule) (y : Int) : jdnOf ρ y .december 31 = yearStart ρ y + yearLen ρ y - 1 := by
  have := daysBefore_december (leap ρ y)
  simp only [jdnOf, yearLen, monthLen] at *; omega

theorem jdnOf_day (ρ : Rule) (y : Int) (m : Month) (d : Int) : jdnOf ρ y m d = jdnOf ρ y m 1 + (d - 1) := by
  simp only [jdnOf]; omega

theorem jdnOf_pred (ρ : Rule) (y : Int) {a b : Month} (h : b.pred = some a) :
    jdnOf ρ y b 1 = jdnOf ρ y a 1 + monthLen (leap ρ y) a := by
  have := prefixSum_pred (monthLen (leap ρ y)) h
  rw [prefixSum_monthLen, prefixSum_monthLen] at this
  simp only [jdnOf]; omega

theorem jdnOf_yearEnd (ρ : Rule) (y : Int) :
    jdnOf ρ (y + 1) .january 1 = jdnOf ρ y .december 1 + monthLen (leap ρ y) .december := by
  have := daysBefore_december (leap ρ y)
  rw [jdnOf_jan1, yearStart_succ]
  simp only [jdnOf, yearLen]; omega

/-- labels are ordered like their day numbers: first by year, since a later year starts after the
end of an earlier one, then by month, likewise, then by day.  Months as numbers, so that `omega`
can use it. -/
theorem jdnOf_lt_iff {ρ : Rule} {y y' : Int} {m m' : Month} {d d' : Int}
    (hv : ValidYMD ρ y m d) (hv' : ValidYMD ρ y' m' d') :
    jdnOf ρ y m d < jdnOf ρ y' m' d'
      ↔ (y < y' ∨ (y = y' ∧ (m.number < m'.number ∨ (m.number = m'.number ∧ d < d')))) := by
  have b := jdnOf_bounds ρ y m d hv
  have b' := jdnOf_bounds ρ y' m' d' hv'
  rcases Int.lt_trichotomy y y' with c | rfl | c
  · have := yearStart_lt ρ y y' c; omega
  · rw [jdnOf, jdnOf]  -- not `simp only`: it would leave `True` for `y = y`, which omega does not read
    have h1 := hv.1; have h2 := hv.2; have h1' := hv'.1; have h2' := hv'.2
    rcases Int.lt_trichotomy m.number m'.number with a | a | a
    · have := daysBefore_mono (leap ρ y) m m' a; omega
    · cases Month.number_inj m m' a; omega
    · have := daysBefore_mono (leap ρ y) m' m a; omega
  · have := yearStart_lt ρ y' y c; omega

theorem jdnOf_le_iff {ρ : Rule} {y y' : Int} {m m' : Month} {d d' : Int}
    (hv : ValidYMD ρ y m d) (hv' : ValidYMD ρ y' m' d') :
    jdnOf ρ y m d ≤ jdnOf ρ y' m' d'
      ↔ (y < y' ∨ (y = y' ∧ (m.number < m'.number ∨ (m.number = m'.number ∧ d ≤ d')))) := by
  have h := jdnOf_lt_iff hv' hv
  omega

theorem isDate_unique {ρ : Rule} {j y y' : Int} {m m' : Month} {d d' : Int}
    (h : IsDate ρ j y m d) (h' : IsDate ρ j y' m' d') : y = y' ∧ m = m' ∧ d = d' := by
  have a := jdnOf_lt_iff h.1 h'.1
  have b := jdnOf_lt_iff h'.1 h.1
  rw [h.2, h'.2] at a b
  have hm : m.number = m'.number := by omega
  exact ⟨by omega, Month.number_inj m m' hm, by omega⟩

end JV
