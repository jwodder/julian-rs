/-
Lemmas/ShapedInst.lean — every well-formed calendar tiles the day numbers, accepts the dates
that exist and has proper month shapes: the instances of `YearTiling`, `Accepting`, `Shaped`.
-/
import JulianVerif.Lemmas.Counts
import JulianVerif.Lemmas.ReformTiling
import JulianVerif.Lemmas.Inverse
namespace JV
open Spec

def ruleCal_shaped (ρ : Rule) : Shaped (ruleCal ρ) where
  F := yearStart ρ
  Live := fun _ => True
  block := fun j => by
    obtain ⟨y, m, d, hat, hdate⟩ := ruleCal_atJdn ρ j
    obtain ⟨hjd, h1, h2⟩ := IsDate.doy hdate
    exact ⟨_, hat, rfl, rfl, trivial, by dsimp only; omega, h1, by rw [ruleCal_yearLength]; exact h2⟩
  next := fun y _ => by
    rw [Calendar.nextYearAfter, ruleCal_gap, ruleCal_yearLength]
    exact ⟨yearStart_succ ρ y, trivial⟩
  prev := fun y _ => by
    rw [Calendar.prevYearBefore, ruleCal_gap, ruleCal_yearLength, ← yearStart_succ, Int.sub_add_cancel]
    exact ⟨rfl, trivial⟩
  mono := fun y y' _ _ h => by rw [ruleCal_yearLength]; exact yearStart_lt ρ y y' h
  pos := fun y _ => by rw [ruleCal_yearLength]; have := yearLen_bounds ρ y; omega
  valid := fun y => (ruleCal_whole ρ y).valid
  lenSum := fun y => by rw [ruleCal_yearLength, (ruleCal_whole ρ y).sumAll]; rfl
  live_of_len := fun _ _ => trivial
  getJdn_atJdn := fun j d h _ => ruleCal_getJdn_atJdn ρ j d h
  proper := fun y m s hs => by
    rw [ruleCal_whole ρ y m] at hs
    cases hs
    have := monthLen_bounds (leap ρ y) m
    simp only [IShape.Proper]; omega

namespace Reform
variable (rf : Reform)

def shaped : Shaped rf.cal where
  F := rf.origin
  Live := rf.Live
  block := rf.atJdn_block
  next := fun y hl => ⟨by rw [origin_next, origin_succ], rf.live_next hl⟩
  prev := fun y hl => ⟨by rw [← origin_succ, origin_prev], rf.live_prev hl⟩
  mono := fun y y' _ _ h => by rw [← origin_succ]; exact rf.origin_mono (by omega)
  pos := fun y => (rf.yearLength_pos_iff y).mpr
  valid := rf.valid_all
  lenSum := rf.yearLength_eq_sumAll
  live_of_len := fun y => (rf.yearLength_pos_iff y).mp
  getJdn_atJdn := fun j d h _ => rf.getJdn_atJdn j d h
  proper := fun y m s h => (rf.shape_proper y m s h).1

end Reform

theorem WF.shaped {c : Calendar} (h : WF c) : Nonempty (Shaped c) := by
  rcases h.cases with rfl | rfl | ⟨rf, rfl, _⟩
  · exact ⟨ruleCal_shaped .julian⟩
  · exact ⟨ruleCal_shaped .gregorian⟩
  · exact ⟨rf.shaped⟩

theorem WF.accepting {c : Calendar} (h : WF c) : Nonempty (Accepting c) :=
  let ⟨S⟩ := h.shaped; ⟨S.toAccepting⟩

theorem WF.tiling {c : Calendar} (h : WF c) : Nonempty (YearTiling c) :=
  let ⟨S⟩ := h.shaped; ⟨S.toYearTiling⟩

end JV
