/-
Lemmas/GenText.lean — the generated date parser (Model/GenLib.lean: `DateParser::{new, scan_char,
parse_uint, parse_int, parse_day_in_year}` and `Calendar::parse_date`, translated from
inner.rs / lib.rs by bin/libgen) is the hand-written parser of Model/Text.lean, which the theorems of
Props/C13.lean (round trip, grammar, error values) are about.
-/
import JulianVerif.Lemmas.GenLib
import JulianVerif.Lemmas.GenLibWF
import JulianVerif.Lemmas.Grammar
import JulianVerif.Lemmas.CheckedCal
namespace JV.Gen

/-- a `&mut self` parser step the way the hand-written model states it: on success the value with the
rest of the text, on failure the error (the parser is dropped) -/
def toHand {ε α : Type} (r : Except ε α × List Char) : Except ε (α × List Char) :=
  match r.1 with
  | .ok a => .ok (a, r.2)
  | .error e => .error e

theorem scanSt_digits {σ : Type} {p : σ → Char → Bool × σ} {st : σ}
    (hp : ∀ c, p st c = (isAsciiDigit c, st)) (s : List Char) : (Str.scanSt p st s).1 = spanDigits s := by
  induction s with
  | nil => rfl
  | cons c cs ih =>
    simp only [Str.scanSt, spanDigits, hp]
    cases isAsciiDigit c
    · rfl
    · simp only [if_true, ← ih]

theorem parseDigits_nil : Str.parseDigits [] = none := rfl

theorem parseDigits_digits {ds : List Char} (hd : ∀ c ∈ ds, isAsciiDigit c = true) :
    Str.parseDigits ds = if ds.isEmpty then none else some (digitsVal ds 0) := by
  simp only [Str.parseDigits, List.all_eq_true.mpr hd, if_true]

theorem parseI32_sign (sg : Sign) {ds : List Char} (hd : ∀ c ∈ ds, isAsciiDigit c = true) :
    Str.parseI32 (sg.chars ++ ds) = if ds.isEmpty then none
      else if inI32 (sg.apply (digitsVal ds 0)) then some (sg.apply (digitsVal ds 0)) else none := by
  cases sg with
  | none =>
    cases ds with
    | nil => rfl
    | cons d ds' =>
      obtain ⟨h1, h2⟩ := digit_ne_sign (hd d List.mem_cons_self)
      show Str.parseI32 (d :: ds') = _
      rw [Str.parseI32.eq_3 _ (fun r h => h1 (List.cons.inj h).1) (fun r h => h2 (List.cons.inj h).1),
        parseDigits_digits hd]
      rfl
  | minus =>
    simp only [Sign.chars, List.cons_append, List.nil_append, Str.parseI32, parseDigits_digits hd]
    cases ds <;> rfl
  | plus =>
    simp only [Sign.chars, List.cons_append, List.nil_append, Str.parseI32, parseDigits_digits hd]
    cases ds <;> rfl

theorem parseU32_digits (d : Char) (ds : List Char) (hd : ∀ c ∈ d :: ds, isAsciiDigit c = true) :
    Str.parseU32 (d :: ds)
      = if digitsVal (d :: ds) 0 ≤ 4294967295 then some ((digitsVal (d :: ds) 0 : Nat) : Int) else none := by
  have hne := (digit_ne_sign (hd d (by simp))).2
  unfold Str.parseU32
  split
  · rename_i r heq
    injection heq with h1 _
    exact absurd h1 hne
  · simp only [parseDigits_digits hd, List.isEmpty_cons, Bool.false_eq_true, if_false]

theorem dateParserScanChar_eq (s : List Char) (ch : Char) :
    toHand (dateParserScanChar s ch) = (scanChar ch s).map (fun r => ((), r)) := by
  cases s with
  | nil => simp [dateParserScanChar, Str.stripPrefixChar, scanChar, toHand, Except.map]
  | cons c cs =>
    by_cases h : (c == ch) = true
    · simp [dateParserScanChar, Str.stripPrefixChar, scanChar, toHand, Except.map, h]
    · have h' : (c == ch) = false := by simpa using h
      simp [dateParserScanChar, Str.stripPrefixChar, scanChar, toHand, Except.map, h']

theorem dateParserParseUint_eq (s : List Char) :
    toHand (dateParserParseUint s) = parseUInt s := by
  obtain ⟨⟨⟨ds, rest⟩, st⟩, hx⟩ : ∃ x, Str.scanSt (fun (_st : Unit) (c : Char) => (isAsciiDigit c, ())) () s = x := ⟨_, rfl⟩
  have hsp : spanDigits s = (ds, rest) := by
    rw [← scanSt_digits (p := fun _ c => (isAsciiDigit c, ())) (st := ()) (fun _ => rfl), hx]
  obtain ⟨e, hd, hr⟩ := spanDigits_eq_iff.mp hsp
  unfold dateParserParseUint parseUInt
  simp only [hx, hsp]
  cases ds with
  | nil =>
    cases s with
    | nil => simp [toHand]
    | cons c cs => simp [toHand]
  | cons d ds' =>
    simp only [parseU32_digits d ds' hd]
    by_cases hle : digitsVal (d :: ds') 0 ≤ 4294967295
    · simp [toHand, hle]
    · simp [toHand, hle]

/-- the predicate `parse_int` hands to `scan`: a sign is accepted as the first character only -/
def signPred (first : Bool) (c : Char) : Bool × Bool :=
  ((first && (c == '-' || c == '+')) || isAsciiDigit c, false)

theorem scanSt_signPred (sg : Sign) (t : List Char)
    (ht : sg = .none → ∃ c cs, t = c :: cs ∧ isAsciiDigit c = true) :
    (Str.scanSt signPred true (sg.chars ++ t)).1 = (sg.chars ++ (spanDigits t).1, (spanDigits t).2) := by
  have hfalse : ∀ u, (Str.scanSt signPred false u).1 = spanDigits u :=
    scanSt_digits fun c => by simp only [signPred, Bool.false_and, Bool.false_or]
  cases sg with
  | none =>
    obtain ⟨c, cs, rfl, hc⟩ := ht rfl
    simp only [Sign.chars, List.nil_append, Str.scanSt, signPred, hc, Bool.or_true, spanDigits, if_true,
      ← hfalse cs]
  | minus => simp only [Sign.chars, List.cons_append, List.nil_append, Str.scanSt, signPred, ← hfalse t]; rfl
  | plus => simp only [Sign.chars, List.cons_append, List.nil_append, Str.scanSt, signPred, ← hfalse t]; rfl

theorem dateParserParseInt_def (s : List Char) : dateParserParseInt s =
    (match (Str.scanSt signPred true s).1 with
      | ([], _) =>
        (match List.head? s with
          | some got => Except.error (ParseDateError.invalidIntStart got)
          | none => Except.error ParseDateError.emptyInt, s)
      | (numstr, rest) =>
        match Str.parseI32 numstr with
        | some n => (Except.ok n, rest)
        | none => (Except.error ParseDateError.parseInt, s)) := rfl

/-- the generated `parse_int` on the texts `parseInt_sign` is about -/
theorem dateParserParseInt_sign (sg : Sign) (t : List Char)
    (ht : sg = .none → ∃ c cs, t = c :: cs ∧ isAsciiDigit c = true) :
    toHand (dateParserParseInt (sg.chars ++ t)) = parseInt (sg.chars ++ t) := by
  obtain ⟨_, hd, _⟩ := spanDigits_eq_iff.mp (rfl : spanDigits t = ((spanDigits t).1, (spanDigits t).2))
  rw [parseInt_sign sg t ht, dateParserParseInt_def, scanSt_signPred sg t ht]
  have hne : sg.chars ++ (spanDigits t).1 ≠ [] := by
    cases sg with
    | none => obtain ⟨c, cs, rfl, hc⟩ := ht rfl; simp [Sign.chars, spanDigits, hc]
    | minus => simp [Sign.chars]
    | plus => simp [Sign.chars]
  obtain ⟨n, ns, hn⟩ := List.exists_cons_of_ne_nil hne
  rw [hn]
  simp only []
  rw [← hn, parseI32_sign sg hd]
  cases (spanDigits t).1.isEmpty
  · cases inI32 (sg.apply (digitsVal (spanDigits t).1 0)) <;> rfl
  · rfl

theorem dateParserParseInt_eq (s : List Char) :
    toHand (dateParserParseInt s) = parseInt s := by
  cases s with
  | nil => rfl
  | cons c cs =>
    by_cases hm : c = '-'
    · exact hm ▸ dateParserParseInt_sign .minus cs nofun
    by_cases hp : c = '+'
    · exact hp ▸ dateParserParseInt_sign .plus cs nofun
    by_cases hc : isAsciiDigit c = true
    · exact dateParserParseInt_sign .none (c :: cs) fun _ => ⟨c, cs, rfl, hc⟩
    · have h1 : (c == '-' || c == '+') = false := by simp [hm, hp]
      have hc' : isAsciiDigit c = false := by simpa using hc
      simp [dateParserParseInt_def, Str.scanSt, signPred, parseInt, toHand, h1, hc']

/-- the model's `scan_char` returns the rest only -/
theorem scanChar_gen (ch : Char) (s : List Char) :
    scanChar ch s = (toHand (dateParserScanChar s ch)).map (·.2) := by
  rw [dateParserScanChar_eq]; cases scanChar ch s <;> rfl

theorem dateParserParseDayInYear_eq (s : List Char) :
    toHand (dateParserParseDayInYear s) = parseDayInYear s := by
  unfold dateParserParseDayInYear parseDayInYear
  rw [← dateParserParseUint_eq s]
  rcases dateParserParseUint s with ⟨e | field1, t1⟩ <;> try rfl
  simp only [toHand, monthTryFromU32_eq]
  cases t1.isEmpty <;> try rfl
  simp only [Bool.false_eq_true, if_false]
  cases Month.ofInt? field1 <;> try rfl
  simp only [scanChar_gen '-' t1]
  rcases dateParserScanChar t1 '-' with ⟨e | u, t2⟩ <;> try rfl
  simp only [toHand, Except.map, ← dateParserParseUint_eq t2]
  rcases dateParserParseUint t2 with ⟨e | day, t3⟩ <;> rfl

/-- what `parse_day_in_year` returns fits `u32`, because `str::parse` refused anything else -/
theorem parseDayInYear_inU32 {s : List Char} {d : DayInYear} {rest : List Char}
    (h : parseDayInYear s = .ok (d, rest)) :
    match d with
    | .ordinal o => InU32 o
    | .date _ day => InU32 day := by
  rcases parseDayInYear_ok h with ⟨_, _, rfl, hle⟩ | ⟨_, _, _, _, _, _, _, _, rfl, hle⟩ <;>
    exact ⟨Int.natCast_nonneg _, Int.ofNat_le.mpr hle⟩

/-- the generated `parse_date` is the model's, for every calendar a caller can hold and every text: it
cannot fault (the year it hands to the constructors fits `i32`, the day, month number and ordinal fit
`u32`, because `str::parse` refused anything else) and returns what `Calendar.parseDate` returns -/
theorem calendarParseDate_eq (c : Calendar) (hc : WF c) (s : List Char) :
    calendarParseDate c s = some (c.parseDate s) := by
  obtain ⟨B⟩ := hc.bounded
  have hg := WF.gapOrdered hc
  have hp := dateParserParseInt_eq s
  rcases h1 : dateParserParseInt s with ⟨e | year, t1⟩ <;> rw [h1] at hp <;>
    simp only [calendarParseDate, Calendar.parseDate, dateParserNew, h1, ← hp, toHand]
  · rfl
  obtain ⟨_, _, _, _, _, _, hy⟩ := parseInt_ok hp.symm
  have hsc := scanChar_gen '-' t1
  rcases h2 : dateParserScanChar t1 '-' with ⟨e | u, t2⟩ <;> rw [h2] at hsc <;> simp only [hsc, toHand, Except.map]
  · rfl
  have hd := dateParserParseDayInYear_eq t2
  rcases h3 : dateParserParseDayInYear t2 with ⟨e | diny, t3⟩ <;> rw [h3] at hd <;> rw [← hd] <;>
    simp only [toHand]
  · rfl
  have hb := parseDayInYear_inU32 hd.symm
  cases t3.isEmpty <;> try rfl
  rcases diny with o | ⟨month, day⟩
  · simp only [Bool.not_true, Bool.false_eq_true, if_false, calendarAtOrdinalDate_eq c hg,
      B.atOrdinalDate_eq year hy o hb, bind, pure, Option.bind_some]
    cases c.atOrdinalDate year o <;> rfl
  · simp only [Bool.not_true, Bool.false_eq_true, if_false, calendarAtYmd_eq c hg,
      B.atYmd_eq year hy month day hb, bind, pure, Option.bind_some]
    cases c.atYmd year month day <;> rfl

end JV.Gen
