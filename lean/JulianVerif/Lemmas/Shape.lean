/-
Lemmas/Shape.lean — the four month shapes in one normal form.  Every shape stands for the
days `1 ..= lo` and `hi ..= last_day` of a month; each method of `MonthShape` is one formula
in `lo`, `hi`, `last_day`, and what relates the methods to one another is arithmetic on those.
-/
import JulianVerif.Model.Calendar
namespace JV
namespace IShape

/-- what the month walk and the formulas below need of a shape (it may be empty): assume this in a lemma
about shapes; `month_shape` guarantees more (`Proper`, `Fits`) -/
def Valid : IShape → Prop
  | .normal maxDay => 0 ≤ maxDay
  | .headless minDay maxDay => 1 ≤ minDay ∧ minDay ≤ maxDay
  | .tailless maxDay naturalMaxDay => 0 ≤ maxDay ∧ maxDay ≤ naturalMaxDay
  | .gapped gapStart gapEnd maxDay => 1 ≤ gapStart ∧ gapStart ≤ gapEnd + 1 ∧ gapEnd ≤ maxDay

/-- last day the month would naturally have -/
def naturalMax : IShape → Int
  | normal L => L
  | headless _ L => L
  | tailless _ N => N
  | gapped _ _ L => L

/-- shapes as `month_shape` produces them: valid, non-empty, and a reported gap is a real,
non-empty range of removed days -/
def Proper : IShape → Prop
  | normal L => 1 ≤ L
  | headless a L => 2 ≤ a ∧ a ≤ L
  | tailless L N => 1 ≤ L ∧ L < N
  | gapped gs ge L => 2 ≤ gs ∧ gs ≤ ge ∧ ge < L

/-- the last day before the removed days (0 unless they lie inside the month) -/
def lo : IShape → Int
  | gapped gs _ _ => gs - 1
  | _ => 0

/-- the first day after the removed days (1 unless the month loses its head or its middle) -/
def hi : IShape → Int
  | headless a _ => a
  | gapped _ ge _ => ge + 1
  | _ => 1

theorem Valid.bounds {s : IShape} (hv : s.Valid) :
    0 ≤ s.lo ∧ s.lo < s.hi ∧ s.hi ≤ s.lastDay + 1 ∧ s.lastDay ≤ s.naturalMax := by
  cases s <;> simp only [Valid, lo, hi, lastDay, naturalMax] at * <;> omega

theorem Proper.valid {s : IShape} (h : s.Proper) : s.Valid := by
  cases s <;> simp only [Proper, Valid] at * <;> omega

theorem len_eq (s : IShape) : s.len = s.lo + (s.lastDay - s.hi + 1) := by
  cases s <;> simp only [len, lo, hi, lastDay] <;> omega

theorem contains_eq (s : IShape) (hv : s.Valid) (d : Int) :
    s.contains d = decide ((1 ≤ d ∧ d ≤ s.lo) ∨ (s.hi ≤ d ∧ d ≤ s.lastDay)) := by
  cases s <;> simp only [Valid, contains, lo, hi, lastDay] at * <;> grind

theorem nthDay_eq (s : IShape) (hv : s.Valid) (k : Int) (hk : 0 ≤ k) :
    s.nthDay k = if 1 ≤ k ∧ k ≤ s.lo then some k
      else if s.lo < k ∧ k ≤ s.len then some (k - s.lo + s.hi - 1) else none := by
  cases s <;> simp only [Valid, nthDay, len, lo, hi, Bool.and_eq_true, decide_eq_true_eq, beq_iff_eq] at * <;> grind

theorem dayOrdinalErr_eq (s : IShape) (hv : s.Valid) (y : Int) (m : Month) (d : Int) (hd : 0 ≤ d) :
    s.dayOrdinalErr y m d =
      if 1 ≤ d ∧ d ≤ s.lo then .ok d
      else if s.hi ≤ d ∧ d ≤ s.lastDay then .ok (d - s.hi + 1 + s.lo)
      else if 1 ≤ d ∧ d ≤ s.naturalMax then .error (.skippedDate y m d)
      else .error (.dayOutOfRange y m d s.firstDay s.lastDay) := by
  cases s <;> simp only [Valid, dayOrdinalErr, lo, hi, lastDay, firstDay, naturalMax, Bool.and_eq_true,
    Bool.or_eq_true, decide_eq_true_eq, beq_iff_eq] at * <;> grind

theorem len_nonneg (s : IShape) (hv : s.Valid) : 0 ≤ s.len := by
  have := hv.bounds; rw [len_eq]; omega

theorem Proper.len_pos {s : IShape} (h : s.Proper) : 1 ≤ s.len := by
  cases s <;> simp only [Proper, len] at * <;> omega

/-- `Proper`, and no longer than a month: what the overflow arguments need -/
def Fits (s : IShape) : Prop := s.Proper ∧ s.naturalMax ≤ 31

theorem Fits.len_le {s : IShape} (h : s.Fits) : s.len ≤ 31 := by
  have := h.1.valid.bounds; have := s.len_eq; have := h.2; omega

theorem nthDay_some_iff (s : IShape) (hv : s.Valid) (n : Int) (hn : 0 ≤ n) :
    (∃ d, s.nthDay n = some d) ↔ (1 ≤ n ∧ n ≤ s.len) := by
  have := hv.bounds; have := s.len_eq
  rw [nthDay_eq s hv n hn]
  split
  · exact ⟨fun _ => by omega, fun _ => ⟨_, rfl⟩⟩
  · split
    · exact ⟨fun _ => by omega, fun _ => ⟨_, rfl⟩⟩
    · exact ⟨fun ⟨_, h⟩ => (nomatch h), fun _ => by omega⟩

theorem nthDay_range {s : IShape} (hv : s.Valid) {n d : Int} (hn : 0 ≤ n)
    (hd : s.nthDay n = some d) : n ≤ d ∧ d ≤ s.naturalMax := by
  have := hv.bounds; have := s.len_eq
  rw [s.nthDay_eq hv n hn] at hd
  by_cases h1 : 1 ≤ n ∧ n ≤ s.lo
  · rw [if_pos h1] at hd; cases hd; omega
  · rw [if_neg h1] at hd
    by_cases h2 : s.lo < n ∧ n ≤ s.len
    · rw [if_pos h2] at hd; cases hd; omega
    · rw [if_neg h2] at hd; cases hd

/-- a day after the removed ones is numbered past the days before them -/
theorem nthDay_upper (s : IShape) (hv : s.Valid) {d : Int} (h1 : s.hi ≤ d) (h2 : d ≤ s.lastDay) :
    s.nthDay (d - s.hi + 1 + s.lo) = some d := by
  have := hv.bounds; have := s.len_eq
  rw [nthDay_eq s hv _ (by omega), if_neg (by omega), if_pos (by omega)]
  congr 1; omega

/-- the days before the removed ones — all days, if the month has lost neither its head nor
its middle — are numbered by themselves -/
theorem nthDay_self (s : IShape) (hv : s.Valid) {d : Int} (h1 : 1 ≤ d)
    (h : d ≤ s.lo ∨ (s.hi = 1 ∧ d ≤ s.lastDay)) : s.nthDay d = some d := by
  have := hv.bounds
  rcases h with h | ⟨h, h2⟩
  · rw [nthDay_eq s hv d (by omega), if_pos ⟨h1, h⟩]
  · have := s.nthDay_upper hv (d := d) (by omega) h2
    rwa [show d - s.hi + 1 + s.lo = d by omega] at this

theorem dayOrdinalErr_of_nthDay (s : IShape) (hv : s.Valid) (y : Int) (m : Month) {k d : Int}
    (hk : 1 ≤ k) (h : s.nthDay k = some d) : s.dayOrdinalErr y m d = .ok k := by
  have := hv.bounds; have := s.len_eq
  rw [nthDay_eq s hv k (by omega)] at h
  rw [dayOrdinalErr_eq s hv y m d (by grind)]
  grind

theorem nthDay_of_dayOrdinalErr (s : IShape) (hv : s.Valid) (y : Int) (m : Month) {k d : Int}
    (hd : 0 ≤ d) (h : s.dayOrdinalErr y m d = .ok k) : s.nthDay k = some d ∧ 1 ≤ k ∧ k ≤ s.len := by
  have := hv.bounds; have := s.len_eq
  rw [dayOrdinalErr_eq s hv y m d hd] at h
  rw [nthDay_eq s hv k (by grind)]
  grind

theorem nthDay_strictMono (s : IShape) (hv : s.Valid) {k k' d d' : Int} (hk : 1 ≤ k) (hkk : k < k')
    (h : s.nthDay k = some d) (h' : s.nthDay k' = some d') : d < d' := by
  have := hv.bounds
  rw [nthDay_eq s hv _ (by omega)] at h h'
  grind

theorem contains_iff (s : IShape) (hv : s.Valid) (d : Int) :
    s.contains d = true ↔ ∃ k, 1 ≤ k ∧ s.nthDay k = some d := by
  have hb := hv.bounds; have := s.len_eq
  rw [contains_eq s hv, decide_eq_true_eq]
  constructor
  · rintro (h | h)
    · exact ⟨d, h.1, s.nthDay_self hv h.1 (.inl h.2)⟩
    · exact ⟨d - s.hi + 1 + s.lo, by omega, s.nthDay_upper hv h.1 h.2⟩
  · rintro ⟨k, hk, h⟩
    rw [nthDay_eq s hv k (by omega)] at h
    grind

theorem first_last (s : IShape) (h : s.Proper) :
    s.nthDay 1 = some s.firstDay ∧ s.nthDay s.len = some s.lastDay := by
  have := h.len_pos
  rw [nthDay_eq s h.valid 1 (by omega), nthDay_eq s h.valid s.len (by omega)]
  cases s <;> simp only [Proper, len, lo, hi, firstDay, lastDay] at * <;> grind

/-- what `day_ordinal` says of a requested day (C07): it is a day of the month; or it lies in the
month's natural span and was removed (skipped — this takes precedence); or it is out of
range, reported with the first and last days that do exist -/
theorem dayOrdinalErr_classify (s : IShape) (h : s.Proper) (y : Int) (m : Month) (d : Int) (hd : 0 ≤ d) :
    (s.contains d = true → ∃ k, s.dayOrdinalErr y m d = .ok k ∧ s.nthDay k = some d)
    ∧ (s.contains d = false → 1 ≤ d → d ≤ s.naturalMax → s.dayOrdinalErr y m d = .error (.skippedDate y m d))
    ∧ (s.contains d = false → ¬ (1 ≤ d ∧ d ≤ s.naturalMax) →
        s.dayOrdinalErr y m d = .error (.dayOutOfRange y m d s.firstDay s.lastDay)) := by
  refine ⟨fun hc => ?_, ?_⟩
  · obtain ⟨k, hk, hn⟩ := (s.contains_iff h.valid d).mp hc
    exact ⟨k, s.dayOrdinalErr_of_nthDay h.valid y m hk hn, hn⟩
  · rw [contains_eq s h.valid, dayOrdinalErr_eq s h.valid y m d hd]
    exact ⟨by grind, by grind⟩

/-- the reported gap is exactly the removed part of the natural span, and the kind says
where it lies (C09) -/
theorem gap_kind (s : IShape) (h : s.Proper) :
    (s.gap = none ↔ s.kind = .normal)
    ∧ (s.gap = none → ∀ d, 1 ≤ d → d ≤ s.naturalMax → s.contains d = true)
    ∧ (∀ a b, s.gap = some (a, b) →
        1 ≤ a ∧ a ≤ b ∧ b ≤ s.naturalMax
        ∧ (∀ d, 1 ≤ d → d ≤ s.naturalMax → (s.contains d = false ↔ (a ≤ d ∧ d ≤ b)))
        ∧ (s.kind = .headless ↔ a = 1) ∧ (s.kind = .tailless ↔ b = s.naturalMax)
        ∧ (s.kind = .gapped ↔ (1 < a ∧ b < s.naturalMax))) := by
  cases s <;> simp only [Proper, gap, kind, naturalMax, contains] at * <;> grind

end IShape
end JV
