/-
Lemmas/Deque.lean — C17: a `RangeInclusive` used as a double-ended iterator refines a list
popped from both ends, for every sequence of operations; the three month iterators as that range,
mapped; what the trimming loops of `Dates::new` leave.
-/
import JulianVerif.Model.Iter
namespace JV

/-- the integers `a, a+1, …, a+n-1` -/
def ival (a : Int) : Nat → List Int
  | 0 => []
  | n + 1 => a :: ival (a + 1) n

theorem ival_length (a : Int) (n : Nat) : (ival a n).length = n := by
  induction n generalizing a with
  | zero => rfl
  | succ n ih => simp [ival, ih]

theorem ival_snoc (a : Int) (n : Nat) : ival a (n + 1) = ival a n ++ [a + n] := by
  induction n generalizing a with
  | zero => simp [ival]
  | succ n ih =>
    have e : a + 1 + (n : Int) = a + ((n + 1 : Nat) : Int) := by push_cast; omega
    rw [ival, ih (a + 1), e]
    rfl

/-- what remains in the range, front to back -/
def RangeIncl.toList (r : RangeIncl) : List Int :=
  if r.isEmpty then [] else ival r.start (r.stop - r.start + 1).toNat

theorem RangeIncl.eq_mk {r : RangeIncl} (h : r.isEmpty = false) :
    ∃ (a : Int) (n : Nat), r = ⟨a, a + n, false⟩ := by
  obtain ⟨a, b, e⟩ := r
  simp only [isEmpty, Bool.or_eq_false_iff, decide_eq_false_iff_not] at h
  exact ⟨a, (b - a).toNat, by rw [h.1, show a + ((b - a).toNat : Int) = b by omega]⟩

theorem RangeIncl.toList_mk (a : Int) (n : Nat) : (RangeIncl.mk a (a + n) false).toList = ival a (n + 1) := by
  simp only [toList, isEmpty, Bool.false_or, decide_eq_true_eq]
  rw [if_neg (by omega), show (a + n - a + 1).toNat = n + 1 by omega]

theorem RangeIncl.len_eq (r : RangeIncl) : r.len = r.toList.length := by
  cases h : r.isEmpty
  · obtain ⟨a, n, rfl⟩ := eq_mk h
    rw [toList_mk, ival_length, len, h, if_neg Bool.false_ne_true]
    show a + n - a + 1 = _
    omega
  · simp [len, toList, h]

theorem RangeIncl.next_refines (r : RangeIncl) :
    (r.next).1 = r.toList.head? ∧ (r.next).2.toList = r.toList.tail := by
  cases h : r.isEmpty
  · obtain ⟨a, n, rfl⟩ := eq_mk h
    rw [toList_mk, next, h]
    cases n with
    | zero => simp [toList, isEmpty, ival]
    | succ k =>
      simp only [Bool.false_eq_true, if_false]
      rw [if_pos (by omega), show a + ((k + 1 : Nat) : Int) = a + 1 + k by omega, toList_mk]
      exact ⟨rfl, rfl⟩
  · simp [next, toList, h]

theorem RangeIncl.nextBack_refines (r : RangeIncl) :
    (r.nextBack).1 = r.toList.getLast? ∧ (r.nextBack).2.toList = r.toList.dropLast := by
  cases h : r.isEmpty
  · obtain ⟨a, n, rfl⟩ := eq_mk h
    rw [toList_mk, nextBack, h]
    cases n with
    | zero => simp [toList, isEmpty, ival]
    | succ k =>
      simp only [Bool.false_eq_true, if_false]
      rw [if_pos (by omega), ival_snoc, show a + ((k + 1 : Nat) : Int) - 1 = a + k by omega, toList_mk]
      simp
  · simp [nextBack, toList, h]

/-- operations of a double-ended exact-size iterator -/
inductive DOp where
  | front | back | len
  deriving DecidableEq, Repr

inductive DOut (α : Type) where
  | item (x : Option α)
  | len (n : Int)
  deriving Repr

/-- the specification: a list popped from both ends -/
def specRun {α : Type} : List α → List DOp → List (DOut α)
  | _, [] => []
  | l, .front :: ops => .item l.head? :: specRun l.tail ops
  | l, .back :: ops => .item l.getLast? :: specRun l.dropLast ops
  | l, .len :: ops => .len l.length :: specRun l ops

/-- the implementation: `RangeInclusive::{next, next_back, len}` -/
def RangeIncl.run : RangeIncl → List DOp → List (DOut Int)
  | _, [] => []
  | r, .front :: ops => .item (r.next).1 :: RangeIncl.run (r.next).2 ops
  | r, .back :: ops => .item (r.nextBack).1 :: RangeIncl.run (r.nextBack).2 ops
  | r, .len :: ops => .len r.len :: RangeIncl.run r ops

theorem RangeIncl.run_refines (r : RangeIncl) (ops : List DOp) :
    r.run ops = specRun r.toList ops := by
  fun_induction RangeIncl.run r ops <;>
    simp only [specRun, *, RangeIncl.next_refines, RangeIncl.nextBack_refines, RangeIncl.len_eq]

def DOut.map {α β : Type} (f : α → Option β) : DOut α → DOut β
  | .item x => .item (x.bind f)
  | .len n => .len n

def DOut.mapD {α β : Type} (f : α → Option β) : DOut α → DOut β
  | .item x => .item (x.bind f)
  | .len n => .len n

theorem RangeIncl.toList_new (a b : Int) : (RangeIncl.new a b).toList = ival a (b - a + 1).toNat := by
  simp only [RangeIncl.toList, RangeIncl.new, RangeIncl.isEmpty, Bool.false_or]
  split
  · rename_i h
    have : (b - a + 1).toNat = 0 := by have := of_decide_eq_true h; omega
    rw [this]; rfl
  · rfl

/-! Each of the three month iterators is its `RangeInclusive` with the index mapped on the way out:
one step of the iterator is one step of the range (`next_eq`, `nextBack_eq`), hence a run of the
iterator is the run of the range, mapped (`run_eq`). -/

theorem Days.next_eq (it : Days) :
    it.next = (it.inner.next.1.bind it.shape.nthDay, ⟨it.shape, it.inner.next.2⟩) := by
  unfold Days.next; rcases it.inner.next with ⟨_ | n, r⟩ <;> rfl

theorem Days.nextBack_eq (it : Days) :
    it.nextBack = (it.inner.nextBack.1.bind it.shape.nthDay, ⟨it.shape, it.inner.nextBack.2⟩) := by
  unfold Days.nextBack; rcases it.inner.nextBack with ⟨_ | n, r⟩ <;> rfl

theorem Dates.next_eq (it : Dates) :
    it.next = (it.inner.next.1.bind it.shape.nthDate, ⟨it.shape, it.inner.next.2⟩) := by
  unfold Dates.next; rcases it.inner.next with ⟨_ | n, r⟩ <;> rfl

theorem Dates.nextBack_eq (it : Dates) :
    it.nextBack = (it.inner.nextBack.1.bind it.shape.nthDate, ⟨it.shape, it.inner.nextBack.2⟩) := by
  unfold Dates.nextBack; rcases it.inner.nextBack with ⟨_ | n, r⟩ <;> rfl

theorem MonthIter.next_eq (it : MonthIter) :
    it.next = (it.inner.next.1.map Month.ofInt?, ⟨it.inner.next.2⟩) := by
  unfold MonthIter.next; rcases it.inner.next with ⟨_ | n, r⟩ <;> rfl

theorem MonthIter.nextBack_eq (it : MonthIter) :
    it.nextBack = (it.inner.nextBack.1.map Month.ofInt?, ⟨it.inner.nextBack.2⟩) := by
  unfold MonthIter.nextBack; rcases it.inner.nextBack with ⟨_ | n, r⟩ <;> rfl

/-- iter.rs `Days` driven by an operation sequence -/
def Days.run : Days → List DOp → List (DOut Int)
  | _, [] => []
  | it, .front :: ops => .item (it.next).1 :: Days.run (it.next).2 ops
  | it, .back :: ops => .item (it.nextBack).1 :: Days.run (it.nextBack).2 ops
  | it, .len :: ops => .len it.len :: Days.run it ops

theorem Days.run_eq (it : Days) (ops : List DOp) :
    it.run ops = (it.inner.run ops).map (DOut.map it.shape.nthDay) := by
  induction ops generalizing it with
  | nil => rfl
  | cons op ops ih =>
    cases op <;>
      simp only [Days.run, RangeIncl.run, List.map_cons, DOut.map, Days.next_eq, Days.nextBack_eq, Days.len, ih]

/-- iter.rs `MonthIter` driven by an operation sequence -/
def MonthIter.run : MonthIter → List DOp → List (DOut Month)
  | _, [] => []
  | it, .front :: ops =>
    .item ((it.next).1.bind id) :: MonthIter.run (it.next).2 ops
  | it, .back :: ops =>
    .item ((it.nextBack).1.bind id) :: MonthIter.run (it.nextBack).2 ops
  | it, .len :: ops => .len it.len :: MonthIter.run it ops

theorem MonthIter.run_eq (it : MonthIter) (ops : List DOp) :
    it.run ops = (it.inner.run ops).map (DOut.map Month.ofInt?) := by
  induction ops generalizing it with
  | nil => rfl
  | cons op ops ih =>
    cases op <;>
      simp only [MonthIter.run, RangeIncl.run, List.map_cons, DOut.map, MonthIter.next_eq,
        MonthIter.nextBack_eq, MonthIter.len, ih, Option.bind_map, Function.comp_def, id]

/-- iter.rs `Dates` driven by an operation sequence -/
def Dates.run : Dates → List DOp → List (DOut Date)
  | _, [] => []
  | it, .front :: ops => .item (it.next).1 :: Dates.run (it.next).2 ops
  | it, .back :: ops => .item (it.nextBack).1 :: Dates.run (it.nextBack).2 ops
  | it, .len :: ops => .len it.len :: Dates.run it ops

theorem Dates.run_eq (it : Dates) (ops : List DOp) :
    it.run ops = (it.inner.run ops).map (DOut.mapD it.shape.nthDate) := by
  induction ops generalizing it with
  | nil => rfl
  | cons op ops ih =>
    cases op <;>
      simp only [Dates.run, RangeIncl.run, List.map_cons, DOut.mapD, Dates.next_eq, Dates.nextBack_eq, Dates.len, ih]

theorem Dates.trimStart_spec (s : MonthShape) (fuel : Nat) (start stop : Int) :
    start ≤ Dates.trimStart s fuel start stop
    ∧ (∀ k, start ≤ k → k < Dates.trimStart s fuel start stop → s.nthDate k = none) := by
  fun_induction Dates.trimStart s fuel start stop with
  | case1 => exact ⟨Int.le_refl _, fun k h1 h2 => by omega⟩
  | case2 fuel start stop hc ih =>
    simp only [Bool.and_eq_true, decide_eq_true_eq, Option.isNone_iff_eq_none] at hc
    refine ⟨by omega, fun k hk1 hk2 => ?_⟩
    by_cases e : k = start
    · exact e ▸ hc.2
    · exact ih.2 k (by omega) hk2
  | case3 => exact ⟨Int.le_refl _, fun k h1 h2 => by omega⟩

theorem Dates.trimEnd_spec (s : MonthShape) (fuel : Nat) (start stop k : Int)
    (h1 : Dates.trimEnd s fuel start stop < k) (h2 : k ≤ stop) : s.nthDate k = none := by
  fun_induction Dates.trimEnd s fuel start stop with
  | case1 => omega
  | case2 fuel start stop hc ih =>
    simp only [Bool.and_eq_true, decide_eq_true_eq, Option.isNone_iff_eq_none] at hc
    by_cases e : k = stop
    · exact e ▸ hc.2
    · exact ih h1 (by omega)
  | case3 => omega

end JV
