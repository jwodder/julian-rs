/-
Lemmas/ReformTiling.lean — the years of a reforming calendar tile the line of day numbers.
`origin y` (ReformSums) is where year `y` starts, for every `y`: the years strictly between the
two boundary years start, and end, at `R`.  It telescopes (`origin_succ`) and is monotone, so a
year has dates exactly when it is not between the boundary years, and a date's day-of-year is its
offset from the origin of its year plus one (C04, C08).
-/
import JulianVerif.Lemmas.AtJdn
namespace JV
open Spec

namespace Reform
variable (rf : Reform)

/-- a year that has dates -/
def Live (y : Int) : Prop := y ≤ rf.yP ∨ rf.yQ ≤ y

theorem origin_mid {y : Int} (h1 : rf.yP < y) (h2 : y ≤ rf.yQ) : rf.origin y = rf.R := by
  rw [origin, if_neg (by omega), if_pos h2]

/- As for `origin_succ` (ReformSums): if-trees over where `y` lies relative to the two boundary
years, related in each region by the monotonicity of `yearStart` and by where day `R` lies in the
two boundary years; checking the regions is left to `grind`. -/

theorem origin_mono {y y' : Int} (h : y ≤ y') : rf.origin y ≤ rf.origin y' := by
  have := rf.oP_spec; have := rf.oQ_spec
  have := yearStart_mono .julian y y' h
  have := yearStart_mono .gregorian y y' h
  have := yearStart_mono .julian y rf.yP
  have := yearStart_lt .gregorian rf.yQ y'
  simp only [origin]; grind

theorem yearLength_pos_iff (y : Int) : 0 < rf.cal.yearLength y ↔ rf.Live y := by
  have := rf.oP_spec; have := rf.oQ_spec
  have := yearLen_bounds .julian y
  have := yearLen_bounds .gregorian y
  rw [yearLength_cases]; simp only [Live, oP'] at *; grind

theorem nextYearAfter_eq (y : Int) :
    rf.cal.nextYearAfter y = if y = rf.yP ∧ rf.yQ > rf.yP then rf.yQ else y + 1 := by
  simp only [Calendar.nextYearAfter, gap_eq, gap, mkGap, Bool.and_eq_true, beq_iff_eq, decide_eq_true_eq]

theorem prevYearBefore_eq (y : Int) :
    rf.cal.prevYearBefore y = if y = rf.yQ ∧ rf.yQ > rf.yP then rf.yP else y - 1 := by
  simp only [Calendar.prevYearBefore, gap_eq, gap, mkGap, Bool.and_eq_true, beq_iff_eq, decide_eq_true_eq]

theorem origin_next (y : Int) : rf.origin (rf.cal.nextYearAfter y) = rf.origin (y + 1) := by
  rw [nextYearAfter_eq]
  split
  · rw [rf.origin_mid (by omega) (Int.le_refl _), rf.origin_mid (by omega) (by omega)]
  · rfl

theorem origin_prev (y : Int) : rf.origin (rf.cal.prevYearBefore y + 1) = rf.origin y := by
  rw [prevYearBefore_eq]
  split
  · rw [rf.origin_mid (by omega) (by omega), rf.origin_mid (by omega) (by omega)]
  · rw [show y - 1 + 1 = y by omega]

theorem live_next {y : Int} (h : rf.Live y) : rf.Live (rf.cal.nextYearAfter y) := by
  rw [nextYearAfter_eq]; simp only [Live] at *; split <;> omega

theorem live_prev {y : Int} (h : rf.Live y) : rf.Live (rf.cal.prevYearBefore y) := by
  rw [prevYearBefore_eq]; simp only [Live] at *; split <;> omega

theorem atJdn_block (j : Int) :
    ∃ d, rf.cal.atJdn? j = some d ∧ d.calendar = rf.cal ∧ d.jdn = j ∧ rf.Live d.year
      ∧ d.ordinal = j - rf.origin d.year + 1
      ∧ 1 ≤ d.ordinal ∧ d.ordinal ≤ rf.cal.yearLength d.year := by
  obtain ⟨y, m, dd, _, hat⟩ := rf.atJdn_eq j
  obtain ⟨h1, h2⟩ := Calendar.ordinal2ymddo_ok_range (atJdn?_parts hat).2.2
  exact ⟨_, hat, rfl, rfl, (rf.yearLength_pos_iff y).mp (Int.lt_of_lt_of_le h1 h2), rfl, h1, h2⟩

end Reform
end JV
