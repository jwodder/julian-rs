/-
Lemmas/ReformSums.lean — month lengths of a reforming calendar region by region; where each month
starts on the line of day numbers (`mstart`: one step lemma, from which the prefix sums of month
lengths and the sum over a year telescope); `year_length` region by region, where each year starts
(`origin`), and that `year_length` is the sum of the month lengths (the lemma defect D1 violated).
-/
import JulianVerif.Lemmas.ReformYear
namespace JV
open Spec

namespace Reform
variable (rf : Reform)

theorem lenOf_before (y : Int) (m : Month) (h : ymKey y m < ymKey rf.yP rf.mP) :
    rf.cal.lenOf y m = monthLen (leap .julian y) m := by
  simp only [Calendar.lenOf, rf.shape_before y m h, IShape.len]

theorem lenOf_after (y : Int) (m : Month) (h : ymKey rf.yQ rf.mQ < ymKey y m) :
    rf.cal.lenOf y m = monthLen (leap .gregorian y) m := by
  simp only [Calendar.lenOf, rf.shape_after y m h, IShape.len]

theorem lenOf_between (y : Int) (m : Month) (h : rf.Between y m) : rf.cal.lenOf y m = 0 :=
  Calendar.lenOf_of_none (rf.shape_between y m h)

theorem lenOf_P (h : ymKey rf.yP rf.mP < ymKey rf.yQ rf.mQ) : rf.cal.lenOf rf.yP rf.mP = rf.dP := by
  rw [Calendar.lenOf, rf.shape_P h]
  by_cases hc : rf.dP = monthLen (leap .julian rf.yP) rf.mP
  · rw [if_pos hc]; exact hc.symm
  · rw [if_neg hc]; rfl

theorem lenOf_Q (h : ymKey rf.yP rf.mP < ymKey rf.yQ rf.mQ) :
    rf.cal.lenOf rf.yQ rf.mQ = monthLen (leap .gregorian rf.yQ) rf.mQ - rf.dQ + 1 := by
  have := rf.validQ
  rw [Calendar.lenOf, rf.shape_Q h]
  by_cases hc : rf.dQ > 1
  · rw [if_pos hc]; rfl
  · rw [if_neg hc]; simp only [IShape.len]; omega

theorem lenOf_PQ (h : ymKey rf.yP rf.mP = ymKey rf.yQ rf.mQ) :
    rf.cal.lenOf rf.yQ rf.mQ = monthLen (leap .gregorian rf.yQ) rf.mQ - rf.dQ + rf.dP + 1 := by
  simp only [Calendar.lenOf, rf.shape_PQ h, IShape.len]; omega

/-- every shape of a reforming calendar is proper, and its natural span is the month table
under the rule in force at the end of the month -/
theorem shape_proper (y : Int) (m : Month) (s : IShape) (h : rf.cal.monthIShape y m = some s) :
    s.Proper ∧ s.naturalMax = monthLen (rf.natLp y m) m := by
  have vP := rf.validP
  have vQ := rf.validQ
  have hle := rf.ym_le
  have blJ := monthLen_bounds (leap .julian y) m
  have blG := monthLen_bounds (leap .gregorian y) m
  -- region by region: the shape is known, and so is the side of month Q the month lies on
  rcases rf.ym_region y m with a | ⟨rfl, rfl, a⟩ | ⟨rfl, rfl, a⟩ | a | ⟨rfl, rfl, a⟩ | a
  · rw [rf.shape_before y m a] at h; cases h
    rw [natLp, if_pos (by omega)]; exact ⟨by simp only [IShape.Proper]; omega, rfl⟩
  · rw [rf.shape_P a] at h
    rw [natLp, if_pos a]
    split at h <;> cases h <;> exact ⟨by simp only [IShape.Proper]; omega, rfl⟩
  · rw [rf.shape_PQ a] at h; cases h
    have hd := rf.intra_days a
    rw [natLp, if_neg (by omega)]
    exact ⟨by simp only [IShape.Proper]; omega, rfl⟩
  · rw [rf.shape_between y m a] at h; cases h
  · rw [rf.shape_Q a] at h
    rw [natLp, if_neg (by omega)]
    split at h <;> cases h <;> exact ⟨by simp only [IShape.Proper]; omega, rfl⟩
  · rw [rf.shape_after y m a] at h; cases h
    rw [natLp, if_neg (by omega)]; exact ⟨by simp only [IShape.Proper]; omega, rfl⟩

theorem valid_all (y : Int) : ∀ m ∈ Month.all, ∀ s, rf.cal.monthIShape y m = some s → s.Valid :=
  fun m _ s hs => (rf.shape_proper y m s hs).1.valid

/-- where month `m` of year `y` starts on the line of day numbers; a month between the two
boundary months has no days and starts, and ends, at `R` -/
def mstart (y : Int) (m : Month) : Int :=
  if ymKey y m ≤ ymKey rf.yP rf.mP then jdnOf .julian y m 1
  else if ymKey y m ≤ ymKey rf.yQ rf.mQ then rf.R
  else jdnOf .gregorian y m 1

theorem mstart_julian {y : Int} {m : Month} (h : ymKey y m ≤ ymKey rf.yP rf.mP) :
    rf.mstart y m = jdnOf .julian y m 1 := if_pos h

theorem mstart_mid {y : Int} {m : Month} (h1 : ymKey rf.yP rf.mP < ymKey y m)
    (h2 : ymKey y m ≤ ymKey rf.yQ rf.mQ) : rf.mstart y m = rf.R := by
  rw [mstart, if_neg (by omega), if_pos h2]

theorem mstart_gregorian {y : Int} {m : Month} (h : ymKey rf.yQ rf.mQ < ymKey y m) :
    rf.mstart y m = jdnOf .gregorian y m 1 := by
  have := rf.ym_le
  rw [mstart, if_neg (by omega), if_neg (by omega)]

theorem startP : jdnOf .julian rf.yP rf.mP 1 + rf.dP = rf.R := by
  have := rf.hP.2; rw [jdnOf_day] at this; omega

theorem startQ : jdnOf .gregorian rf.yQ rf.mQ 1 + rf.dQ = rf.R + 1 := by
  have := rf.hQ.2; rw [jdnOf_day] at this; omega

/-- a month ends where the next one starts — `b` of `y'` is the month after `a` of `y`, in the same
year or the next.  Region by region: the length of `a` is known, and so is where `b` lies. -/
theorem mstart_next {y y' : Int} {a b : Month} (hk : ymKey y' b = ymKey y a + 1)
    (hn : ∀ ρ, jdnOf ρ y' b 1 = jdnOf ρ y a 1 + monthLen (leap ρ y) a) :
    rf.mstart y' b = rf.mstart y a + rf.cal.lenOf y a := by
  have hP := rf.startP; have hQ := rf.startQ
  rcases rf.ym_region y a with h | ⟨rfl, rfl, h⟩ | ⟨rfl, rfl, h⟩ | ⟨h1, h2⟩ | ⟨rfl, rfl, h⟩ | h
  · rw [rf.lenOf_before y a h, rf.mstart_julian (by omega), rf.mstart_julian (by omega), hn]
  · rw [rf.lenOf_P h, rf.mstart_mid (by omega) (by omega), rf.mstart_julian (Int.le_refl _)]
    exact hP.symm
  · obtain ⟨ey, em⟩ := ymKey_eq.mp h
    rw [rf.lenOf_PQ h, rf.mstart_gregorian (by omega), rf.mstart_julian (by omega), hn, ← ey, ← em]
    rw [← ey, ← em] at hQ; omega
  · rw [rf.lenOf_between y a ⟨h1, h2⟩, rf.mstart_mid (by omega) (by omega), rf.mstart_mid h1 (by omega)]
    omega
  · rw [rf.lenOf_Q h, rf.mstart_gregorian (by omega), rf.mstart_mid h (Int.le_refl _), hn]
    omega
  · rw [rf.lenOf_after y a h, rf.mstart_gregorian (by omega), rf.mstart_gregorian h, hn]

theorem prefix_eq (y : Int) (m : Month) :
    prefixSum (rf.cal.lenOf y) m = rf.mstart y m - rf.mstart y .january := by
  induction m using Month.induction with
  | january => exact (Int.sub_self _).symm
  | step a b hp hn ih =>
    rw [prefixSum_pred _ hp, ih,
      rf.mstart_next (y := y) (y' := y) (by simp only [ymKey]; omega) fun ρ => jdnOf_pred ρ y hp]
    omega

theorem sumAll_eq (y : Int) :
    rf.cal.sumAll y Month.all = rf.mstart (y + 1) .january - rf.mstart y .january := by
  rw [Calendar.sumAll_all, rf.prefix_eq, rf.mstart_next (y := y) (y' := y + 1) (a := .december)
    (by simp only [ymKey, Month.jan_number, Month.dec_number]; omega) fun ρ => jdnOf_yearEnd ρ y]
  omega

/-- `oP` if both boundary dates are in one year, else 0: the number of Julian days in the
year of the first Gregorian date -/
def oP' : Int := if rf.yP = rf.yQ then rf.oP else 0

/-- number of day-of-year ordinals removed in the year of the first Gregorian date -/
def gapAmt : Int := rf.oQ - rf.oP' - 1

theorem oQ_ge : rf.oP' + 1 ≤ rf.oQ := by
  have vQ := rf.validQ
  have := daysBefore_bounds (leap .gregorian rf.yQ) rf.mQ
  simp only [oP']
  split
  · exact (rf.ordinal_order ‹_›).2
  · simp only [oQ]; omega

/-- the final `match` of `year_length` -/
def lenOfKind (k : YearKind) (reformLen : Int) : Int :=
  match k with
  | .common => 365
  | .leap => 366
  | .reformCommon | .reformLeap => reformLen
  | .skipped => 0

theorem lenOfKind_ite (c : Prop) [Decidable c] (a b : YearKind) (x : Int) :
    lenOfKind (if c then a else b) x = if c then lenOfKind a x else lenOfKind b x := by
  split <;> rfl

theorem yearLength_raw (y : Int) :
    rf.cal.yearLength y =
      lenOfKind (rf.cal.yearKind y)
        (if y = rf.yQ then
          (if leap .gregorian y then 366 else 365) - rf.gap.ordinalGap
        else rf.oP) := by
  simp only [Calendar.yearLength, cal_eq, isGregorianLeapYear_eq, beq_iff_eq, lenOfKind]
  rfl

/-- the three computed fields of the gap record, in terms of `oP'`: the two same-year kinds agree,
and so do the two other kinds -/
theorem gap_fields :
    rf.gap.ordinalGap = rf.gapAmt
    ∧ rf.gap.ordinalGapStart = (if rf.yP = rf.yQ then rf.oQ - 1 else 0)
    ∧ rf.gap.postReform.ordinal = rf.oP' + 1 := by
  simp only [gap, mkGap, kind_eq, gapAmt, oP', oP, oQ]
  by_cases e : rf.yP = rf.yQ
  · by_cases e2 : rf.mP = rf.mQ <;> simp [e, e2]
  · by_cases e2 : rf.yP + 1 = rf.yQ <;> simp [e, e2]

theorem ordinalGap_eq : rf.gap.ordinalGap = rf.gapAmt := rf.gap_fields.1

theorem ordinalGapStart_eq :
    rf.gap.ordinalGapStart = if rf.yP = rf.yQ then rf.oQ - 1 else 0 := rf.gap_fields.2.1

theorem postOrdinal_eq : rf.gap.postReform.ordinal = rf.oP' + 1 := rf.gap_fields.2.2

theorem oP_spec : rf.R - 1 = yearStart .julian rf.yP + rf.oP - 1
    ∧ 1 ≤ rf.oP ∧ rf.oP ≤ yearLen .julian rf.yP := IsDate.doy rf.hP

theorem oQ_spec : rf.R = yearStart .gregorian rf.yQ + rf.oQ - 1
    ∧ 1 ≤ rf.oQ ∧ rf.oQ ≤ yearLen .gregorian rf.yQ := IsDate.doy rf.hQ

theorem oP_dec31 (hm : rf.mP.number = 12) (hd : rf.dP = 31) : rf.oP = yearLen .julian rf.yP := by
  have := daysBefore_december (leap .julian rf.yP)
  rw [oP, Month.number_inj rf.mP .december hm, hd, yearLen]
  simp only [monthLen] at this; exact this

theorem oQ_jan1 (hm : rf.mQ.number = 1) (hd : rf.dQ = 1) : rf.oQ = 1 := by
  rw [oQ, Month.number_inj rf.mQ .january hm, hd]; rfl

/-- `year_length` as one formula: the final `match` applied to the arms of `yearKind_eq`, with the
removed ordinals taken off in the year of the first Gregorian date -/
theorem yearLength_cases (y : Int) :
    rf.cal.yearLength y =
      if y < rf.yP then yearLen .julian y
      else if rf.yQ < y then yearLen .gregorian y
      else if y = rf.yQ then rf.oP' + yearLen .gregorian rf.yQ - rf.oQ + 1
      else if y = rf.yP then rf.oP
      else 0 := by
  have hlo := rf.label_order
  have bP := Month.number_bounds rf.mP; have bQ := Month.number_bounds rf.mQ
  have vP := rf.validP; have vQ := rf.validQ
  have lQ := monthLen_bounds (leap .gregorian rf.yQ) rf.mQ
  have h1 := rf.oP_dec31; have h2 := rf.oQ_jan1
  have hg : rf.gapAmt = rf.oQ - rf.oP' - 1 := rfl
  have hp : rf.oP' = if rf.yP = rf.yQ then rf.oP else 0 := rfl
  rw [yearLength_raw, yearKind_eq, ordinalGap_eq]
  simp only [lenOfKind_ite]
  simp only [lenOfKind, yearLen] at h1 ⊢
  grind

theorem yearLength_le (y : Int) : rf.cal.yearLength y ≤ 366 := by
  have := yearLen_bounds .julian y
  have := yearLen_bounds .gregorian y
  have := yearLen_bounds .gregorian rf.yQ
  have := yearLen_bounds .julian rf.yP
  have := rf.oP_spec.2
  have := rf.oQ_ge
  rw [rf.yearLength_cases]; omega

theorem yearLength_yQ : rf.cal.yearLength rf.yQ = rf.oP' + yearLen .gregorian rf.yQ - rf.oQ + 1 := by
  have := rf.yP_le_yQ
  rw [yearLength_cases, if_neg (by omega), if_neg (Int.lt_irrefl _), if_pos rfl]

/-- a whole year has its kind by the rule of its side, and the final `match` gives that rule's length -/
theorem yearLength_whole {y : Int} :
    (rf.WhollyJ y → rf.cal.yearLength y = yearLen .julian y)
    ∧ (rf.WhollyG y → rf.cal.yearLength y = yearLen .gregorian y) := by
  refine ⟨fun hJ => ?_, fun hG => ?_⟩
  · rw [yearLength_raw, yearKind_eq, if_pos hJ, yearLen]; cases leap .julian y <;> rfl
  · rw [yearLength_raw, yearKind_eq, if_neg (rf.whollyG_not_whollyJ hG), if_pos hG, yearLen]
    cases leap .gregorian y <;> rfl

/-- where year `y` starts -/
def origin (y : Int) : Int :=
  if y ≤ rf.yP then yearStart .julian y
  else if y ≤ rf.yQ then rf.R
  else yearStart .gregorian y

theorem mstart_jan (y : Int) : rf.mstart y .january = rf.origin y := by
  simp only [mstart, origin, jdnOf_jan1, ymKey_jan_le]

theorem origin_yQ : rf.origin rf.yQ = rf.R - rf.oP' := by
  have := rf.oP_spec; have := rf.yP_le_yQ
  rw [origin, oP']
  by_cases e : rf.yP = rf.yQ
  · rw [if_pos (by omega), if_pos e, ← e]; omega
  · rw [if_neg (by omega), if_pos (Int.le_refl _), if_neg e]; omega

/- `origin` and (by `yearLength_cases`) `year_length` are if-trees over where `y` lies relative
to the two boundary years.  What relates them in each region is `yearStart_succ` and where day `R`
lies in the two boundary years (`oP_spec`, `oQ_spec`); checking the regions is left to `grind`. -/
theorem origin_succ (y : Int) : rf.origin (y + 1) = rf.origin y + rf.cal.yearLength y := by
  have hle := rf.yP_le_yQ
  have := rf.oP_spec; have := rf.oQ_spec
  have := yearStart_succ .julian y
  have := yearStart_succ .gregorian y
  rw [yearLength_cases]; simp only [origin, oP']; grind

/-- C08: the year length is the sum of the month lengths: both are the distance to the start of
the next year -/
theorem yearLength_eq_sumAll (y : Int) : rf.cal.yearLength y = rf.cal.sumAll y Month.all := by
  rw [sumAll_eq, mstart_jan, mstart_jan, origin_succ]; omega

end Reform
end JV
