/-
Lemmas/Reform.lean — what `Calendar::reforming` establishes.  `Reform` packages the
facts every later lemma needs: the last Julian label P, the first Gregorian label Q, that
Q as a Julian date lies after R (the calendar skips forward); the gap record is `mkGap` of the two
labels.  First, what relates the two rules on one label (a Gregorian leap year is a Julian one).
-/
import JulianVerif.Lemmas.Proleptic
import JulianVerif.Lemmas.YearStart
import JulianVerif.Lemmas.Cmp
import JulianVerif.Lemmas.Ranges
namespace JV
open Spec

/-- the gap record `Calendar::reforming` computes from the two labels -/
def mkGap (yP : Int) (mP : Month) (dP : Int) (yQ : Int) (mQ : Month) (dQ : Int) : ReformGap :=
  let oP := daysBefore (leap .julian yP) mP + dP
  let oQ := daysBefore (leap .gregorian yQ) mQ + dQ
  let kind := GapKind.forDates yP mP yQ mQ
  { preReform := ⟨yP, oP, mP, dP⟩
    postReform := ⟨yQ, (match kind with | .intraMonth | .crossMonth => oP + 1 | _ => 1), mQ, dQ⟩
    kind := kind
    ordinalGapStart := (match kind with | .intraMonth | .crossMonth => oQ - 1 | _ => 0)
    ordinalGap := (match kind with | .intraMonth | .crossMonth => oQ - oP - 1 | _ => oQ - 1) }

/-- the data of a reforming calendar as built by `Calendar::reforming` -/
structure Reform where
  R : Int
  yP : Int
  mP : Month
  dP : Int
  yQ : Int
  mQ : Month
  dQ : Int
  hP : IsDate .julian (R - 1) yP mP dP
  hQ : IsDate .gregorian R yQ mQ dQ
  /-- the Julian date labelled like the first Gregorian date lies after R -/
  hskip : R < jdnOf .julian yQ mQ dQ

def Reform.cal (rf : Reform) : Calendar :=
  .reforming rf.R (mkGap rf.yP rf.mP rf.dP rf.yQ rf.mQ rf.dQ)

abbrev Reform.gap (rf : Reform) : ReformGap := mkGap rf.yP rf.mP rf.dP rf.yQ rf.mQ rf.dQ

theorem Reform.cal_eq (rf : Reform) : rf.cal = .reforming rf.R rf.gap := rfl
theorem Reform.postYear_eq (rf : Reform) : rf.gap.postReform.year = rf.yQ := rfl

theorem leapG_imp_leapJ (y : Int) (h : leap .gregorian y = true) : leap .julian y = true := by
  simp only [leap, Bool.and_eq_true, beq_iff_eq] at *; exact h.1

theorem monthLen_G_le_J (y : Int) (m : Month) :
    monthLen (leap .gregorian y) m ≤ monthLen (leap .julian y) m := by
  cases hg : leap .gregorian y
  · cases leap .julian y <;> cases m <;> decide
  · rw [leapG_imp_leapJ y hg]; exact Int.le_refl _

theorem Spec.ValidYMD.julian {y : Int} {m : Month} {d : Int} (h : ValidYMD .gregorian y m d) :
    ValidYMD .julian y m d := ⟨h.1, Int.le_trans h.2 (monthLen_G_le_J y m)⟩

/-- Julian day-of-year of a label that is valid in the Gregorian calendar: one more from March
on in the years that only the Julian rule makes leap -/
theorem julian_ordinal_adjust (y : Int) (m : Month) :
    daysBefore (leap .julian y) m
      = daysBefore (leap .gregorian y) m
        + (if y.tmod 100 == 0 && y.tmod 400 != 0 && Month.february.lt m then 1 else 0) := by
  have hc : (y.tmod 100 == 0 && y.tmod 400 != 0) = (leap .julian y && !leap .gregorian y) := by
    rw [tmod_beq, tmod_bne, Bool.eq_iff_iff]
    simp only [leap, Bool.and_eq_true, beq_iff_eq, bne_iff_ne, Bool.not_eq_true', Bool.and_eq_false_iff,
      Bool.or_eq_false_iff, beq_eq_false_iff_ne, bne_eq_false_iff_eq, ne_eq]
    omega
  rw [hc]
  cases hg : leap .gregorian y
  · cases leap .julian y <;> cases m <;> decide
  · rw [leapG_imp_leapJ y hg]; simp

/-- the first Gregorian label Q re-read as a Julian date — what `Calendar::reforming` asks of
`JULIAN.get_jdn`, with the day-of-year adjusted for a 29 February the Gregorian year lacks -/
theorem julian_getJdn_label {R yQ : Int} {mQ : Month} {dQ : Int}
    (hQ : IsDate .gregorian R yQ mQ dQ) {o : Int}
    (ho : o = if (yQ.tmod 100 == 0 && yQ.tmod 400 != 0 && Month.february.lt mQ) = true
      then daysBefore (leap .gregorian yQ) mQ + dQ + 1 else daysBefore (leap .gregorian yQ) mQ + dQ) :
    1 ≤ o ∧ o ≤ 366 ∧ Calendar.julian.getJdn yQ o
      = if InI32 (jdnOf .julian yQ mQ dQ) then some (jdnOf .julian yQ mQ dQ) else none := by
  have hord : o = daysBefore (leap .julian yQ) mQ + dQ := by
    rw [ho, julian_ordinal_adjust yQ mQ]; split <;> omega
  have hbq := daysBefore_bounds (leap .julian yQ) mQ
  have hvQ : 1 ≤ dQ ∧ dQ ≤ monthLen (leap .julian yQ) mQ := hQ.1.julian
  have hg := ruleCal_getJdn .julian yQ o (by omega) (by omega)
  have hJ : yearStart .julian yQ + o - 1 = jdnOf .julian yQ mQ dQ := by simp only [jdnOf]; omega
  rw [hJ] at hg
  exact ⟨by omega, by omega, hg⟩

/-- `Calendar::reforming` as one formula in the labels of its two days: P, the Julian label
of day `R - 1`, and Q, the Gregorian label of day `R`.  The test is on the Julian day number of
the label Q: the calendar must skip forward. -/
theorem mkReforming_eq (R : Int) :
    ∃ yP mP dP yQ mQ dQ, IsDate .julian (R - 1) yP mP dP ∧ IsDate .gregorian R yQ mQ dQ
      ∧ Calendar.julian.atJdn? (R - 1)
          = some ⟨.julian, yP, daysBefore (leap .julian yP) mP + dP, mP, dP, dP, R - 1⟩
      ∧ Calendar.gregorian.atJdn? R
          = some ⟨.gregorian, yQ, daysBefore (leap .gregorian yQ) mQ + dQ, mQ, dQ, dQ, R⟩
      ∧ Calendar.mkReforming R =
        if ¬ InI32 (R - 1) then .error .invalidReformation
        else if ¬ InI32 (jdnOf .julian yQ mQ dQ) then
          (if yQ < 0 then .error .invalidReformation else .error .arithmetic)
        else if jdnOf .julian yQ mQ dQ ≤ R then .error .invalidReformation
        else .ok (.reforming R (mkGap yP mP dP yQ mQ dQ)) := by
  obtain ⟨yP, mP, dP, hatP, hdP⟩ := ruleCal_atJdn .julian (R - 1)
  obtain ⟨yQ, mQ, dQ, hatQ, hdQ⟩ := ruleCal_atJdn .gregorian R
  refine ⟨yP, mP, dP, yQ, mQ, dQ, hdP, hdQ, hatP, hatQ, ?_⟩
  simp only [ruleCal] at hatP hatQ
  -- the code's tests in their order; `julian_getJdn_label` reads its `JULIAN.get_jdn` call as the
  -- Julian day number of the label Q
  by_cases hR1 : InI32 (R - 1)
  case neg =>
    have : inI32 (R - 1) = false := (inI32_eq_false_iff _).mpr hR1
    simp only [Calendar.mkReforming, this, Bool.not_false, if_true, if_pos hR1]
  rw [if_neg (not_not_intro hR1)]
  simp only [Calendar.mkReforming, (inI32_iff _).mpr hR1, Bool.not_true, Bool.false_eq_true, if_false,
    hatP, hatQ, (julian_getJdn_label hdQ rfl).2.2]
  by_cases hin : InI32 (jdnOf .julian yQ mQ dQ)
  · rw [if_pos hin, if_neg (not_not_intro hin)]
    by_cases hle : jdnOf .julian yQ mQ dQ ≤ R
    · simp only [if_pos hle]
    · simp only [if_neg hle, mkGap]
      cases GapKind.forDates yP mP yQ mQ <;> rfl
  · rw [if_neg hin, if_pos hin]

theorem mk_reform {R : Int} {c : Calendar} (h : Calendar.mkReforming R = .ok c) :
    ∃ rf : Reform, c = rf.cal ∧ rf.R = R ∧ InI32 (R - 1) := by
  obtain ⟨yP, mP, dP, yQ, mQ, dQ, hdP, hdQ, _, _, e⟩ := mkReforming_eq R
  rw [e] at h
  -- only the last arm of the formula is `.ok`
  have ⟨h1, h3, hc⟩ : InI32 (R - 1) ∧ R < jdnOf .julian yQ mQ dQ
      ∧ c = .reforming R (mkGap yP mP dP yQ mQ dQ) := by grind
  exact ⟨⟨R, yP, mP, dP, yQ, mQ, dQ, hdP, hdQ, h3⟩, hc, rfl, h1⟩

/-- `Calendar::reforming` never reaches the arm that stands for `at_jdn`'s `unreachable!()`:
no arm of the formula is `.error .fault` -/
theorem mkReforming_ne_fault (R : Int) : Calendar.mkReforming R ≠ .error .fault := by
  obtain ⟨_, _, _, _, _, _, _, _, _, _, e⟩ := mkReforming_eq R
  rw [e]; grind

theorem GapKind.forDates_sameYear {y y' : Int} {m m' : Month} {k : GapKind}
    (h : GapKind.forDates y m y' m' = k) (hk : k = .intraMonth ∨ k = .crossMonth) : y = y' := by
  by_cases e : y = y'
  · exact e
  · by_cases e' : y + 1 = y' <;> simp [GapKind.forDates, e, e'] at h <;> simp [← h] at hk

namespace Reform
variable (rf : Reform)

/-- Julian day-of-year of the last Julian date -/
def oP : Int := daysBefore (leap .julian rf.yP) rf.mP + rf.dP
/-- Gregorian day-of-year of the first Gregorian date -/
def oQ : Int := daysBefore (leap .gregorian rf.yQ) rf.mQ + rf.dQ

theorem validP : 1 ≤ rf.dP ∧ rf.dP ≤ monthLen (leap .julian rf.yP) rf.mP := rf.hP.1
theorem validQ : 1 ≤ rf.dQ ∧ rf.dQ ≤ monthLen (leap .gregorian rf.yQ) rf.mQ := rf.hQ.1

theorem validQ_julian : ValidYMD .julian rf.yQ rf.mQ rf.dQ := rf.hQ.1.julian

/-- the last Julian label precedes the first Gregorian label, with at least one label
(the Julian label of day R) strictly between — months as numbers, for `omega` -/
theorem label_order :
    rf.yP < rf.yQ ∨ (rf.yP = rf.yQ ∧ (rf.mP.number < rf.mQ.number
      ∨ (rf.mP.number = rf.mQ.number ∧ rf.dP + 2 ≤ rf.dQ))) := by
  obtain ⟨yJ, mJ, dJ, _, hJ⟩ := ruleCal_atJdn .julian rf.R
  have h1 := (jdnOf_lt_iff rf.hP.1 hJ.1).mp (by rw [rf.hP.2, hJ.2]; omega)
  have h2 := (jdnOf_lt_iff hJ.1 rf.validQ_julian).mp (by rw [hJ.2]; exact rf.hskip)
  omega

theorem ym_le : ymKey rf.yP rf.mP ≤ ymKey rf.yQ rf.mQ := by
  have := rf.label_order
  have := Month.number_bounds rf.mP; have := Month.number_bounds rf.mQ
  simp only [ymKey]; omega

theorem intra_days (h : ymKey rf.yP rf.mP = ymKey rf.yQ rf.mQ) : rf.dP + 2 ≤ rf.dQ := by
  have := rf.label_order
  have := Month.number_bounds rf.mP; have := Month.number_bounds rf.mQ
  simp only [ymKey] at h; omega

theorem yP_le_yQ : rf.yP ≤ rf.yQ := by
  have := rf.label_order; omega

/-- the label (y, m, d) comes no later than the last Julian label P -/
def LeP (y : Int) (m : Month) (d : Int) : Prop :=
  ymKey y m < ymKey rf.yP rf.mP ∨ (ymKey y m = ymKey rf.yP rf.mP ∧ d ≤ rf.dP)

/-- the label (y, m, d) comes no earlier than the first Gregorian label Q -/
def GeQ (y : Int) (m : Month) (d : Int) : Prop :=
  ymKey rf.yQ rf.mQ < ymKey y m ∨ (ymKey y m = ymKey rf.yQ rf.mQ ∧ rf.dQ ≤ d)

/-- the Julian labels of the days below R are those up to P -/
theorem lt_R_iff {y : Int} {m : Month} {d : Int} (hv : ValidYMD .julian y m d) :
    jdnOf .julian y m d < rf.R ↔ rf.LeP y m d := by
  have := Month.number_bounds m; have := Month.number_bounds rf.mP
  have h := jdnOf_le_iff hv rf.hP.1
  rw [rf.hP.2] at h
  simp only [LeP, ymKey]; omega

/-- the Gregorian labels of the days from R on are those from Q on -/
theorem ge_R_iff {y : Int} {m : Month} {d : Int} (hv : ValidYMD .gregorian y m d) :
    rf.R ≤ jdnOf .gregorian y m d ↔ rf.GeQ y m d := by
  have := Month.number_bounds m; have := Month.number_bounds rf.mQ
  have h := jdnOf_le_iff rf.hQ.1 hv
  rw [rf.hQ.2] at h
  simp only [GeQ, ymKey]; omega

theorem ordinal_order (h : rf.yP = rf.yQ) :
    rf.oP + 2 ≤ daysBefore (leap .julian rf.yQ) rf.mQ + rf.dQ ∧ rf.oP + 1 ≤ rf.oQ := by
  have hP := rf.hP.2
  have hs := rf.hskip
  have := julian_ordinal_adjust rf.yQ rf.mQ
  simp only [jdnOf, oP, oQ] at *
  rw [h] at hP ⊢
  constructor <;> omega

theorem kind_eq :
    GapKind.forDates rf.yP rf.mP rf.yQ rf.mQ =
      if rf.yP = rf.yQ then (if rf.mP = rf.mQ then .intraMonth else .crossMonth)
      else if rf.yP + 1 = rf.yQ then .crossYear else .multiYear := by
  simp only [GapKind.forDates, beq_iff_eq]

end Reform
end JV
