/-
Lemmas/ReformYear.lean — `year_kind`, the natural February length and `month_shape`
of a reforming calendar, region by region.
-/
import JulianVerif.Lemmas.Reform
namespace JV
open Spec

namespace Reform
variable (rf : Reform)

theorem gap_eq : rf.cal.gap = some rf.gap := rfl

/-- where a year lies relative to the years of the last Julian and the first Gregorian date -/
theorem year_region (y : Int) :
    y < rf.yP ∨ (y = rf.yP ∧ rf.yP < rf.yQ) ∨ (y = rf.yP ∧ rf.yP = rf.yQ) ∨ (rf.yP < y ∧ y < rf.yQ)
      ∨ (y = rf.yQ ∧ rf.yP < rf.yQ) ∨ rf.yQ < y := by
  have := rf.yP_le_yQ; omega

/-- year `y` lies wholly before the reformation: its December 31 is a Julian date of the calendar -/
abbrev WhollyJ (y : Int) : Prop := y < rf.yP ∨ (y = rf.yP ∧ rf.mP.number = 12 ∧ rf.dP = 31)

/-- year `y` lies wholly after it: its January 1 is a Gregorian date of the calendar -/
abbrev WhollyG (y : Int) : Prop := rf.yQ < y ∨ (y = rf.yQ ∧ rf.mQ.number = 1 ∧ rf.dQ = 1)

/-- February 29 of year `y` is a date of the calendar, Julian or Gregorian -/
abbrev Feb29 (y : Int) : Prop :=
  (leap .julian y = true
      ∧ (y < rf.yP ∨ (y = rf.yP ∧ (2 < rf.mP.number ∨ (rf.mP.number = 2 ∧ rf.dP = 29)))))
  ∨ (leap .gregorian y = true ∧ (rf.yQ < y ∨ (y = rf.yQ ∧ rf.mQ.number ≤ 2)))

/-- P comes before Q, so a year cannot lie both wholly before and wholly after the reformation -/
theorem whollyG_not_whollyJ {y : Int} (hG : rf.WhollyG y) : ¬ rf.WhollyJ y := by
  have := rf.label_order; have := rf.validP; omega

/-- `year_kind` as one formula: the code's tests, with months as numbers, region by region -/
theorem yearKind_eq (y : Int) :
    rf.cal.yearKind y =
      if rf.WhollyJ y then (if leap .julian y then .leap else .common)
      else if rf.WhollyG y then (if leap .gregorian y then .leap else .common)
      else if rf.yP < y ∧ y < rf.yQ then .skipped
      else if rf.Feb29 y then .reformLeap else .reformCommon := by
  simp only [Reform.cal, Calendar.yearKind, isJulianLeapYear_eq, isGregorianLeapYear_eq, Month.lt, Month.le,
    Bool.and_eq_true, Bool.or_eq_true, decide_eq_true_eq, beq_iff_eq]
  simp only [ReformGap.cmpYear, mkGap, Month.number_eq_iff, Month.jan_number, Month.feb_number, Month.dec_number]
  rcases rf.year_region y with h | ⟨rfl, h⟩ | ⟨rfl, h⟩ | h | ⟨rfl, h⟩ | h
  · simp only [cmpIntRange_less h]; rw [if_pos (Or.inl h)]
  · -- the year of P alone: whole iff P is its December 31; its February 29 can only be Julian
    simp only [cmpIntRange_eqLower rfl h]
    by_cases c : rf.mP.number = 12 ∧ rf.dP = 31
    · rw [if_pos c, if_pos (Or.inr ⟨rfl, c⟩)]
    · rw [if_neg c, if_neg (c := rf.WhollyJ rf.yP) (by omega), if_neg (c := rf.WhollyG rf.yP) (by omega),
        if_neg (c := rf.yP < rf.yP ∧ rf.yP < rf.yQ) (by omega)]
      refine ite_congr (propext ⟨fun ⟨a, l⟩ => Or.inl ⟨l, Or.inr ⟨rfl, a⟩⟩, ?_⟩) (fun _ => rfl) (fun _ => rfl)
      rintro (⟨l, a | ⟨_, a⟩⟩ | ⟨_, a⟩)
      · omega
      · exact ⟨a, l⟩
      · omega
  · -- the year of both: P comes before Q in it, so P is not its last day nor Q its first
    simp only [cmpIntRange_eqBoth rfl h]
    have e1 : ¬ rf.WhollyJ rf.yP ∧ ¬ rf.WhollyG rf.yP := by
      have := rf.label_order; have := Month.number_bounds rf.mP; have := Month.number_bounds rf.mQ
      have := rf.validP; have := rf.validQ; have := monthLen_bounds (leap .gregorian rf.yQ) rf.mQ
      omega
    rw [if_neg e1.1, if_neg e1.2, if_neg (c := rf.yP < rf.yP ∧ rf.yP < rf.yQ) (by omega)]
    refine ite_congr (propext ⟨?_, ?_⟩) (fun _ => rfl) (fun _ => rfl)
    · rintro (⟨a, l⟩ | ⟨a, l⟩)
      · exact Or.inl ⟨l, Or.inr ⟨rfl, a⟩⟩
      · exact Or.inr ⟨l, Or.inr ⟨h, a⟩⟩
    · rintro (⟨l, a | ⟨_, a⟩⟩ | ⟨l, a | ⟨_, a⟩⟩)
      · omega
      · exact Or.inl ⟨a, l⟩
      · omega
      · exact Or.inr ⟨a, l⟩
  · simp only [cmpIntRange_between h.1 h.2]
    rw [if_neg (by omega), if_neg (by omega), if_pos h]
  · -- the year of Q alone: whole iff Q is its January 1; its February 29 can only be Gregorian
    simp only [cmpIntRange_eqUpper h rfl]
    by_cases c : rf.mQ.number = 1 ∧ rf.dQ = 1
    · rw [if_pos c, if_neg (c := rf.WhollyJ rf.yQ) (by omega), if_pos (Or.inr ⟨rfl, c⟩)]
    · rw [if_neg c, if_neg (c := rf.WhollyJ rf.yQ) (by omega), if_neg (c := rf.WhollyG rf.yQ) (by omega),
        if_neg (c := rf.yP < rf.yQ ∧ rf.yQ < rf.yQ) (by omega)]
      refine ite_congr (propext ⟨fun ⟨a, l⟩ => Or.inr ⟨l, Or.inr ⟨rfl, a⟩⟩, ?_⟩) (fun _ => rfl) (fun _ => rfl)
      rintro (⟨_, a⟩ | ⟨l, a | ⟨_, a⟩⟩)
      · omega
      · omega
      · exact ⟨a, l⟩
  · have := rf.yP_le_yQ
    simp only [cmpIntRange_greater (lo := rf.yP) (by omega) h]
    rw [if_neg (c := rf.WhollyJ y) (by omega), if_pos (Or.inl h)]

/-- the leap rule that governs the natural length of month (y, m): Julian if the month comes
before the month of the first Gregorian date, Gregorian otherwise -/
def natLp (y : Int) (m : Month) : Bool :=
  if ymKey y m < ymKey rf.yQ rf.mQ then leap .julian y else leap .gregorian y

/-- strictly between the last Julian month and the first Gregorian month -/
def Between (y : Int) (m : Month) : Prop :=
  ymKey rf.yP rf.mP < ymKey y m ∧ ymKey y m < ymKey rf.yQ rf.mQ

/-- where a month lies relative to the months of the last Julian and the first Gregorian date -/
theorem ym_region (y : Int) (m : Month) :
    ymKey y m < ymKey rf.yP rf.mP
      ∨ (y = rf.yP ∧ m = rf.mP ∧ ymKey rf.yP rf.mP < ymKey rf.yQ rf.mQ)
      ∨ (y = rf.yQ ∧ m = rf.mQ ∧ ymKey rf.yP rf.mP = ymKey rf.yQ rf.mQ)
      ∨ rf.Between y m
      ∨ (y = rf.yQ ∧ m = rf.mQ ∧ ymKey rf.yP rf.mP < ymKey rf.yQ rf.mQ)
      ∨ ymKey rf.yQ rf.mQ < ymKey y m := by
  rcases Int.lt_trichotomy (ymKey y m) (ymKey rf.yP rf.mP) with a | a | a
  · exact .inl a
  · obtain ⟨rfl, rfl⟩ := ymKey_eq.mp a
    rcases Int.lt_or_eq_of_le rf.ym_le with b | b
    · exact .inr (.inl ⟨rfl, rfl, b⟩)
    · obtain ⟨e1, e2⟩ := ymKey_eq.mp b
      exact .inr (.inr (.inl ⟨e1, e2, b⟩))
  · rcases Int.lt_trichotomy (ymKey y m) (ymKey rf.yQ rf.mQ) with b | b | b
    · exact .inr (.inr (.inr (.inl ⟨a, b⟩)))
    · obtain ⟨rfl, rfl⟩ := ymKey_eq.mp b
      exact .inr (.inr (.inr (.inr (.inl ⟨rfl, rfl, a⟩))))
    · exact .inr (.inr (.inr (.inr (.inr b))))

theorem cmpYearMonth_eq (y : Int) (m : Month) :
    (mkGap rf.yP rf.mP rf.dP rf.yQ rf.mQ rf.dQ).cmpYearMonth y m
      = cmpYmRange y m rf.yP rf.mP rf.yQ rf.mQ := rfl

/-- the natural length of February (fixes F2/F3 live here): 29 exactly when the rule in
force at the end of that February makes the year leap.  Arm by arm of `yearKind_eq` (a year wholly
Julian, wholly Gregorian, without days, a boundary year): the year kind is a leap kind, or the month
is the last Julian month of a Julian leap year, exactly when that rule says so — in each arm a
statement about `y`, the two boundary labels and the two leap flags, which `grind` decides. -/
theorem naturalLength_feb (y : Int) (hnb : ¬ rf.Between y .february) :
    rf.cal.naturalLength y .february = if rf.natLp y .february = true then 29 else 28 := by
  have bP := Month.number_bounds rf.mP
  have bQ := Month.number_bounds rf.mQ
  have hlo := rf.label_order
  have vQ := rf.validQ
  have hfebQ : rf.mQ.number = 2 → rf.dQ ≤ 29 := fun h =>
    Int.le_trans vQ.2 (Month.number_inj rf.mQ .february h ▸ monthLen_feb_le _)
  simp only [Calendar.naturalLength, gap_eq, cmpYearMonth_eq, isJulianLeapYear_eq, natLp,
    cmpYmRange_eq_key _ _ rf.ym_le, Bool.and_eq_true, beq_iff_eq, cmpIntRange_eqLower_iff]
  simp only [Between, ymKey, Month.feb_number] at hnb hlo ⊢
  rw [yearKind_eq]
  by_cases hJ : rf.WhollyJ y
  · rw [if_pos hJ]; simp only [YearKind.isLeap]; grind
  rw [if_neg hJ]
  by_cases hG : rf.WhollyG y
  · rw [if_pos hG]; simp only [YearKind.isLeap]; grind
  rw [if_neg hG]
  by_cases hb : rf.yP < y ∧ y < rf.yQ
  · rw [if_pos hb]; simp only [YearKind.isLeap]; grind
  rw [if_neg hb]; simp only [YearKind.isLeap]; grind

theorem naturalLength_eq (y : Int) (m : Month) (h : ¬ rf.Between y m) :
    rf.cal.naturalLength y m = monthLen (rf.natLp y m) m := by
  cases m
  case february =>
    rw [naturalLength_feb rf y h]
    cases rf.natLp y .february <;> rfl
  all_goals (cases h2 : rf.natLp y _ <;> simp [Calendar.naturalLength, monthLen])

theorem naturalLength_julian (y : Int) (m : Month) (h1 : ymKey y m ≤ ymKey rf.yP rf.mP)
    (h2 : ymKey y m < ymKey rf.yQ rf.mQ) :
    rf.cal.naturalLength y m = monthLen (leap .julian y) m := by
  rw [naturalLength_eq rf y m (fun h => by have := h.1; omega), natLp, if_pos h2]

theorem naturalLength_gregorian (y : Int) (m : Month) (h : ymKey rf.yQ rf.mQ ≤ ymKey y m) :
    rf.cal.naturalLength y m = monthLen (leap .gregorian y) m := by
  rw [naturalLength_eq rf y m (fun h' => by have := h'.2; omega), natLp, if_neg (by omega)]

theorem monthIShape_raw (y : Int) (m : Month) :
    rf.cal.monthIShape y m =
      match cmpIntRange (ymKey y m) (ymKey rf.yP rf.mP) (ymKey rf.yQ rf.mQ) with
      | .eqLower | .eqBoth =>
        if GapKind.forDates rf.yP rf.mP rf.yQ rf.mQ == .intraMonth then
          some (.gapped (rf.dP + 1) (rf.dQ - 1) (rf.cal.naturalLength y m))
        else if rf.dP == rf.cal.naturalLength y m then some (.normal (rf.cal.naturalLength y m))
        else some (.tailless rf.dP (rf.cal.naturalLength y m))
      | .between => none
      | .eqUpper =>
        if rf.dQ > 1 then some (.headless rf.dQ (rf.cal.naturalLength y m))
        else some (.normal (rf.cal.naturalLength y m))
      | _ => some (.normal (rf.cal.naturalLength y m)) := by
  rw [← cmpYmRange_eq_key _ _ rf.ym_le]
  rfl

theorem shape_before (y : Int) (m : Month) (h : ymKey y m < ymKey rf.yP rf.mP) :
    rf.cal.monthIShape y m = some (.normal (monthLen (leap .julian y) m)) := by
  have hle := rf.ym_le
  rw [monthIShape_raw, cmpIntRange_less h, naturalLength_julian rf y m (by omega) (by omega)]

theorem shape_after (y : Int) (m : Month) (h : ymKey rf.yQ rf.mQ < ymKey y m) :
    rf.cal.monthIShape y m = some (.normal (monthLen (leap .gregorian y) m)) := by
  have hle := rf.ym_le
  rw [monthIShape_raw, cmpIntRange_greater (by omega) h, naturalLength_gregorian rf y m (by omega)]

theorem shape_between (y : Int) (m : Month) (h : rf.Between y m) : rf.cal.monthIShape y m = none := by
  rw [monthIShape_raw, cmpIntRange_between h.1 h.2]

theorem intraMonth_iff :
    (GapKind.forDates rf.yP rf.mP rf.yQ rf.mQ == .intraMonth) = true
      ↔ ymKey rf.yP rf.mP = ymKey rf.yQ rf.mQ := by
  rw [kind_eq, ymKey_eq]
  by_cases e : rf.yP = rf.yQ <;> by_cases e2 : rf.mP = rf.mQ <;> simp [e, e2] <;> split <;> simp

theorem shape_P (h : ymKey rf.yP rf.mP < ymKey rf.yQ rf.mQ) :
    rf.cal.monthIShape rf.yP rf.mP =
      if rf.dP = monthLen (leap .julian rf.yP) rf.mP then some (.normal (monthLen (leap .julian rf.yP) rf.mP))
      else some (.tailless rf.dP (monthLen (leap .julian rf.yP) rf.mP)) := by
  rw [monthIShape_raw, cmpIntRange_eqLower rfl h, naturalLength_julian rf _ _ (Int.le_refl _) h,
    if_neg (by rw [intraMonth_iff]; omega)]
  simp only [beq_iff_eq]

theorem shape_Q (h : ymKey rf.yP rf.mP < ymKey rf.yQ rf.mQ) :
    rf.cal.monthIShape rf.yQ rf.mQ =
      if rf.dQ > 1 then some (.headless rf.dQ (monthLen (leap .gregorian rf.yQ) rf.mQ))
      else some (.normal (monthLen (leap .gregorian rf.yQ) rf.mQ)) := by
  rw [monthIShape_raw, cmpIntRange_eqUpper h rfl, naturalLength_gregorian rf _ _ (Int.le_refl _)]

theorem shape_PQ (h : ymKey rf.yP rf.mP = ymKey rf.yQ rf.mQ) :
    rf.cal.monthIShape rf.yQ rf.mQ =
      some (.gapped (rf.dP + 1) (rf.dQ - 1) (monthLen (leap .gregorian rf.yQ) rf.mQ)) := by
  rw [monthIShape_raw, cmpIntRange_eqBoth h.symm rfl, naturalLength_gregorian rf _ _ (Int.le_refl _),
    if_pos (rf.intraMonth_iff.mpr h)]

theorem monthIShape_none_iff (y : Int) (m : Month) : rf.cal.monthIShape y m = none ↔ rf.Between y m := by
  constructor
  · intro h
    rcases rf.ym_region y m with a | ⟨rfl, rfl, a⟩ | ⟨rfl, rfl, a⟩ | a | ⟨rfl, rfl, a⟩ | a
    · rw [rf.shape_before y m a] at h; cases h
    · rw [rf.shape_P a] at h; split at h <;> cases h
    · rw [rf.shape_PQ a] at h; cases h
    · exact a
    · rw [rf.shape_Q a] at h; split at h <;> cases h
    · rw [rf.shape_after y m a] at h; cases h
  · exact rf.shape_between y m

theorem yearKind_skipped_iff (y : Int) : rf.cal.yearKind y = .skipped ↔ (rf.yP < y ∧ y < rf.yQ) := by
  -- the other arms of the formula are kinds other than Skipped, and a year between is not whole
  rw [yearKind_eq]; grind

end Reform
end JV
