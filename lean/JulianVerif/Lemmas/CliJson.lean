/-
Lemmas/CliJson.lean — the comma / bracket patching at the end of `Options::run`.
-/
import JulianVerif.Model.Cli
namespace JV
namespace Cli

theorem mapIdx_const {α β} (g : α → β) (l : List α) : l.mapIdx (fun _ => g) = l.map g := by
  induction l with
  | nil => rfl
  | cons a l ih => rw [List.mapIdx_cons, ih, List.map_cons]

theorem withCommas_snoc (h : String) (mid : List String) (last : String) :
    withCommas (h :: (mid ++ [last])) = h :: (mid.map (· ++ ",") ++ [last]) := by
  unfold withCommas
  by_cases hl : (h :: (mid ++ [last])).length > 2
  · rw [if_pos hl, List.mapIdx_cons, List.mapIdx_concat, ← mapIdx_const]
    congr 2
    · rw [List.mapIdx_eq_mapIdx_iff]
      intro i hi
      rw [if_pos (by simp; omega)]
    · simp
  · rw [if_neg hl]
    cases mid with
    | nil => rfl
    | cons _ _ => simp at hl

theorem closeLast_concat (ini : List String) (x : String) :
    closeLast (ini ++ [x]) = ini ++ [x ++ jsonTail] := by
  simp [closeLast]

theorem jsonPatch_snoc (h : String) (mid : List String) (last : String) :
    jsonPatch (h :: (mid ++ [last])) = h :: (mid.map (· ++ ",") ++ [last ++ jsonTail]) := by
  rw [jsonPatch, withCommas_snoc, ← List.cons_append, closeLast_concat, List.cons_append]

theorem list_shape (out : List String) :
    out = [] ∨ (∃ x, out = [x]) ∨ ∃ h mid last, out = h :: (mid ++ [last]) := by
  cases out with
  | nil => exact .inl rfl
  | cons x xs =>
    rcases List.eq_nil_or_concat xs with rfl | ⟨mid, last, rfl⟩
    · exact .inr (.inl ⟨x, rfl⟩)
    · exact .inr (.inr ⟨x, mid, last, by rw [List.concat_eq_append]⟩)

theorem jsonPatch_length (out : List String) : (jsonPatch out).length = out.length := by
  rcases list_shape out with rfl | ⟨x, rfl⟩ | ⟨h, mid, last, rfl⟩
  · rfl
  · rfl
  · rw [jsonPatch_snoc]; simp

theorem jsonPatch_getElem (out : List String) (i : Nat) (hi : i < out.length) :
    (jsonPatch out)[i]'(by rw [jsonPatch_length]; exact hi)
      = if i = out.length - 1 then out[i] ++ jsonTail
        else if 1 ≤ i then out[i] ++ "," else out[i] := by
  rcases list_shape out with rfl | ⟨x, rfl⟩ | ⟨h, mid, last, rfl⟩
  · cases hi
  · obtain rfl : i = 0 := by simpa using hi
    rfl
  · simp only [jsonPatch_snoc]
    cases i with
    | zero => simp
    | succ i =>
      simp only [List.length_cons, List.length_append, List.length_nil] at hi ⊢
      simp only [List.getElem_cons_succ, List.getElem_append, List.length_map, List.getElem_map]
      by_cases him : i < mid.length
      · rw [dif_pos him, dif_pos him, if_neg (by omega), if_pos (by omega)]
      · have : i = mid.length := by omega
        subst this
        simp

end Cli
end JV
