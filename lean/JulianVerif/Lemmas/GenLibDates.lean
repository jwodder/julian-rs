/-
Lemmas/GenLibDates.lean — `Dates::new` as GENERATED from iter.rs (two `while` loops, each a function
recursive in a fuel argument of 2^32 + 1) is the hand-written `Dates.new` (fuel `len + 1`): the loops
run in lock step while there is fuel, and the result does not depend on how much fuel is left over.
-/
import JulianVerif.Lemmas.GenLib
import JulianVerif.Lemmas.Deque
namespace JV.Gen

section
variable (S : MonthShape)
  (H : ∀ n : Int, 0 ≤ n → n ≤ 4294967295 → monthShapeNthDate S n = some (S.nthDate n))

include H in
/-- the second loop of `Dates::new`: with fuel to spare on both sides, the generated loop ends where
the model's does, whatever the two amounts of fuel -/
theorem datesNewWhile2_eq : ∀ (fuel fuel' : Nat) (start stop : Int), 1 ≤ start → stop ≤ 4294967295 →
    (stop - start + 1).toNat < fuel → (stop - start + 1).toNat < fuel' →
    datesNewWhile2 S start fuel stop
      = some (⟨S, RangeIncl.new start (Dates.trimEnd S fuel' start stop)⟩ : Dates) := by
  intro fuel
  induction fuel with
  | zero => intro _ start stop _ _ h; omega
  | succ n ih =>
    intro fuel' start stop h1 h2 hf hf'
    obtain ⟨m, rfl⟩ : ∃ m, fuel' = m + 1 := ⟨fuel' - 1, by omega⟩
    simp only [datesNewWhile2, Dates.trimEnd, bind, pure]
    by_cases hc : start ≤ stop
    · rw [H stop (by omega) h2]
      simp only [hc, decide_true, if_true, Bool.true_and, Option.bind_some]
      cases (S.nthDate stop).isNone
      · rfl
      · simp only [if_true, Chk.u32_eq_some (show InU32 (stop - 1) by omega),
          Option.bind_some]
        exact ih m start (stop - 1) h1 (by omega) (by omega) (by omega)
    · simp only [hc, decide_false, Bool.false_and, Bool.false_eq_true, if_false]

include H in
theorem datesNewWhile1_eq : ∀ (fuel fuel' : Nat) (start stop : Int), 0 ≤ start → stop ≤ 4294967294 →
    (stop - start + 1).toNat < fuel → (stop - start + 1).toNat < fuel' →
    datesNewWhile1 S stop fuel start
      = datesNewWhile2 S (Dates.trimStart S fuel' start stop) 4294967297 stop := by
  intro fuel
  induction fuel with
  | zero => intro _ start stop _ _ h; omega
  | succ n ih =>
    intro fuel' start stop h1 h2 hf hf'
    obtain ⟨m, rfl⟩ : ∃ m, fuel' = m + 1 := ⟨fuel' - 1, by omega⟩
    simp only [datesNewWhile1, Dates.trimStart, bind]
    by_cases hc : start ≤ stop
    · rw [H start h1 (by omega)]
      simp only [hc, decide_true, if_true, Bool.true_and, Option.bind_some]
      cases (S.nthDate start).isNone
      · rfl
      · simp only [if_true, Chk.u32_eq_some (show InU32 (start + 1) by omega),
          Option.bind_some]
        exact ih m (start + 1) stop (by omega) h2 (by omega) (by omega)
    · simp only [hc, decide_false, Bool.false_and, Bool.false_eq_true, if_false]

include H in
theorem datesNew_eq (hlen : monthShapeLen S = some S.len) (h0 : 0 ≤ S.len) (h1 : S.len ≤ 4294967294) :
    datesNew S = some (Dates.new S) := by
  have hge := (Dates.trimStart_spec S (S.len.toNat + 1) 1 S.len).1
  simp only [datesNew, hlen, bind, Option.bind_some, Dates.new]
  rw [datesNewWhile1_eq S H _ (S.len.toNat + 1) 1 S.len (by omega) h1 (by omega) (by omega),
    datesNewWhile2_eq S H _ (S.len.toNat + 1) _ S.len (by omega) (by omega) (by omega) (by omega)]

end
end JV.Gen
