/-
Lemmas/YearKindSpec.lean — the year kind of a reforming calendar, stated against the days of
the calendar: which labels are dates, and "February 29 is a date".
-/
import JulianVerif.Lemmas.AtJdn
namespace JV
open Spec

/-- "February 29 of year `y` is a date of `c`" -/
def HasFeb29 (c : Calendar) (y : Int) : Prop :=
  ∃ j d, c.atJdn? j = some d ∧ d.year = y ∧ d.month = .february ∧ d.day = 29

namespace Reform
variable (rf : Reform)

theorem date_iff (y : Int) (m : Month) (d : Int) :
    (∃ j dt, rf.cal.atJdn? j = some dt ∧ dt.year = y ∧ dt.month = m ∧ dt.day = d)
      ↔ ((ValidYMD .julian y m d ∧ jdnOf .julian y m d < rf.R)
          ∨ (ValidYMD .gregorian y m d ∧ rf.R ≤ jdnOf .gregorian y m d)) := by
  constructor
  · rintro ⟨j, dt, h, rfl, rfl, rfl⟩
    obtain ⟨y, m, d, hd, h'⟩ := rf.atJdn_eq j
    rw [h] at h'; cases h'
    rw [side] at hd
    split at hd
    · exact Or.inl ⟨hd.1, by dsimp only; rw [hd.2]; assumption⟩
    · exact Or.inr ⟨hd.1, by dsimp only; rw [hd.2]; omega⟩
  · rintro (⟨hv, hj⟩ | ⟨hv, hj⟩)
    · obtain ⟨y', m', d', hd, h⟩ := rf.atJdn_eq (jdnOf .julian y m d)
      rw [side, if_pos hj] at hd
      obtain ⟨rfl, rfl, rfl⟩ := isDate_unique hd ⟨hv, rfl⟩
      exact ⟨_, _, h, rfl, rfl, rfl⟩
    · obtain ⟨y', m', d', hd, h⟩ := rf.atJdn_eq (jdnOf .gregorian y m d)
      rw [side, if_neg (by omega)] at hd
      obtain ⟨rfl, rfl, rfl⟩ := isDate_unique hd ⟨hv, rfl⟩
      exact ⟨_, _, h, rfl, rfl, rfl⟩

theorem whollyJ_iff (y : Int) :
    jdnOf .julian y .december 31 < rf.R ↔ rf.WhollyJ y := by
  have := Month.number_bounds rf.mP
  have := rf.validP
  have := monthLen_bounds (leap .julian rf.yP) rf.mP
  rw [rf.lt_R_iff (validDec31 _ y)]; simp only [LeP, ymKey, Month.dec_number]; omega

theorem whollyG_iff (y : Int) :
    rf.R ≤ jdnOf .gregorian y .january 1 ↔ rf.WhollyG y := by
  have := Month.number_bounds rf.mQ
  have := rf.validQ
  rw [rf.ge_R_iff (validJan1 _ y)]; simp only [GeQ, ymKey, Month.jan_number]; omega

theorem hasFeb29_iff (y : Int) :
    HasFeb29 rf.cal y ↔ rf.Feb29 y := by
  have hfeb : ∀ lp (m : Month) (d : Int), d ≤ monthLen lp m → m.number = 2 → d ≤ 29 := by
    intro lp m d h e
    cases Month.number_inj m .february e
    exact Int.le_trans h (monthLen_feb_le lp)
  have hP := hfeb _ _ _ rf.validP.2
  have hQ := hfeb _ _ _ rf.validQ.2
  have := Month.number_bounds rf.mP; have := Month.number_bounds rf.mQ
  rw [HasFeb29, rf.date_iff, validFeb29, validFeb29]
  refine or_congr (and_congr_right fun hl => ?_) (and_congr_right fun hl => ?_)
  · rw [rf.lt_R_iff ((validFeb29 _ _).mpr hl)]; simp only [LeP, ymKey, Month.feb_number]; omega
  · rw [rf.ge_R_iff ((validFeb29 _ _).mpr hl)]; simp only [GeQ, ymKey, Month.feb_number]; omega

end Reform
end JV
