/-
Lemmas/CheckedKernels.lean — no machine operation of the inner.rs conversion kernels
overflows and no `debug_assert!` of the two range comparisons fires: the checked functions of
Model/CheckedInner.lean return `some` of the unbounded model.
-/
import JulianVerif.Model.Checked
import JulianVerif.Lemmas.Arith
import JulianVerif.Lemmas.ChkAttr
import JulianVerif.Lemmas.Ranges
import JulianVerif.Lemmas.Cmp
namespace JV.Chk

/-! `InI32`, `InU32`, `InI64` are reducible, so `omega` proves the hypothesis of a step lemma as a
goal and reads it as a fact. -/

theorem i32_eq_some {x : Int} (h : InI32 x) : i32 x = some x := by simp [i32, inI32, h.1, h.2]
theorem u32_eq_some {x : Int} (h : InU32 x) : u32 x = some x := by simp [u32, inU32, h.1, h.2]
theorem i64_eq_some {x : Int} (h : InI64 x) : i64 x = some x := by simp [i64, inI64, h.1, h.2]

theorem i32_bind {β : Type} {x : Int} (h : InI32 x) (k : Int → Option β) : (i32 x).bind k = k x := by
  rw [i32_eq_some h, Option.bind_some]
theorem u32_bind {β : Type} {x : Int} (h : InU32 x) (k : Int → Option β) : (u32 x).bind k = k x := by
  rw [u32_eq_some h, Option.bind_some]
theorem i64_bind {β : Type} {x : Int} (h : InI64 x) (k : Int → Option β) : (i64 x).bind k = k x := by
  rw [i64_eq_some h, Option.bind_some]

/-- a truncating remainder of a non-negative value is the Euclidean one, the only one `omega` knows -/
theorem i32_tmod_bind {β : Type} {x m : Int} (h0 : 0 ≤ x) (h : InI32 (x % m)) (k : Int → Option β) :
    (i32 (x.tmod m)).bind k = k (x % m) := by
  rw [Int.tmod_eq_emod_of_nonneg h0, i32_bind h]

/-- a value computed in two branches and used after them: the rest of the block is run in each -/
theorem ite_bind {α β : Type} (c : Prop) [Decidable c] (x y : Option α) (k : α → Option β) :
    (if c then x else y).bind k = if c then x.bind k else y.bind k := by
  by_cases h : c <;> simp only [h, if_true, if_false]

theorem pure_bind {α β : Type} (a : α) (k : α → Option β) : (pure a : Option α).bind k = k a := rfl

theorem ite_some {α : Type} (c : Prop) [Decidable c] (a b : α) :
    (if c then some a else some b) = some (if c then a else b) := (apply_ite some c a b).symm

/-- a short-circuit `&&` with an operand computed by checked steps is two nested tests -/
theorem ite_and {α : Type} (a b : Prop) [Decidable a] [Decidable b] (x y : α) :
    (if a then if b then x else y else y) = if a ∧ b then x else y := by
  by_cases h : a <;> simp only [h, if_true, if_false, true_and, false_and]

/-- a branch that faults (`debug_assert!`, `unreachable!()`) is one the tests above it exclude; not in
`chk`, since a `none` may also be an answer: named where the block has such a branch -/
theorem fault_then {α : Type} {c : Prop} [Decidable c] (h : ¬ c) (x : Option α) :
    (if c then none else x) = x := if_neg h

attribute [chk ↓] i32_bind u32_bind i64_bind i32_eq_some u32_eq_some i64_eq_some
attribute [chk ↓ high] i32_tmod_bind
attribute [chk ↓] Option.bind_eq_bind Option.bind_some Option.bind_none Option.bind_assoc pure_bind ite_bind
attribute [chk] Option.pure_def ite_some ite_and Bool.and_eq_true Bool.or_eq_true Bool.not_eq_true' decide_eq_true_eq
  decide_eq_false_iff_not beq_iff_eq

theorem decomposeJulian_eq (days : Int) (h : InI32 days) :
    decomposeJulian days = some (JV.decomposeJulian days) := by
  simp only [decomposeJulian, JV.decomposeJulian]
  have hr : 0 ≤ days % 1461 ∧ days % 1461 < 1461 := by omega
  have hq : InI32 (days / 1461 * 4) ∧ InI32 (days / 1461 * 4 + 3) := by omega
  -- quotient and remainder as atoms: every later bound is then linear in `q`, `r`
  generalize days % 1461 = r at *
  generalize days / 1461 = q at *
  simp (disch := omega) only [chk]
  by_cases hc : r > 365 <;> simp (disch := omega) only [hc, if_true, if_false, Int.tmod_eq_emod_of_nonneg]

theorem jdn2julian_eq (jd : Int) (h : InI32 jd) : jdn2julian jd = some (JV.jdn2julian jd) := by
  obtain ⟨y, o, e⟩ : ∃ y o, JV.decomposeJulian jd = (y, o) := ⟨_, _, rfl⟩
  have hs := decomposeJulian_spec e
  simp (disch := omega) only [jdn2julian, JV.jdn2julian, decomposeJulian_eq jd h, e, chk]

/-- 367 and not 366: `Calendar::reforming` hands `JULIAN.get_jdn` a Gregorian day-of-year plus one
when the Gregorian year lacks the 29 February -/
theorem composeJulian_eq (years ordinal : Int) (hy : InI32 years) (h1 : 1 ≤ ordinal)
    (h2 : ordinal ≤ 367) :
    composeJulian years ordinal = some (JV.composeJulian years ordinal) := by
  simp (disch := omega) only [composeJulian, JV.composeJulian, chk, fault_then]

theorem julian2jdn_eq (year ordinal : Int) (h1 : 1 ≤ ordinal) (h2 : ordinal ≤ 367) :
    julian2jdn year ordinal = some (JV.julian2jdn year ordinal) := by
  simp (disch := omega) only [julian2jdn, JV.julian2jdn, inI32_iff, chk, composeJulian_eq]

theorem jdn2gregorian_eq (jd : Int) (h : InI32 jd) :
    jdn2gregorian jd = some (JV.jdn2gregorian jd) := by
  simp only [jdn2gregorian, JV.jdn2gregorian]
  -- both re-basing anchors at once: all that matters is that `jd - off` stays in i32
  obtain ⟨off, yoff, e, hoff, hyoff⟩ : ∃ off yoff : Int,
      (if jd < 0 then ((-32104 : Int), (-4800 : Int)) else (113993, -4400)) = (off, yoff)
      ∧ InI32 (jd - off) ∧ -4800 ≤ yoff ∧ yoff ≤ -4400 := by
    by_cases hn : jd < 0
    · exact ⟨_, _, if_pos hn, by omega, by omega⟩
    · exact ⟨_, _, if_neg hn, by omega, by omega⟩
  simp only [e]
  have hqp : 0 ≤ (jd - off) % 146097 ∧ (jd - off) % 146097 < 146097 := by omega
  generalize hqp' : (jd - off) % 146097 = qp at *
  generalize hquads : (jd - off) / 146097 = quads at *
  obtain ⟨b, hq, hb⟩ : ∃ b : Int, (qp - 366).tdiv 36524 = b ∧ 0 ≤ b ∧ b ≤ 3 :=
    ⟨_, rfl, by rw [tdiv_century _ hqp.1]; omega⟩
  obtain ⟨ys, o, ed⟩ : ∃ ys o, JV.decomposeJulian (qp + b) = (ys, o) := ⟨_, _, rfl⟩
  have hys : 0 ≤ ys ∧ ys ≤ 400 := by have := decomposeJulian_spec ed; omega
  have hc : inI32 (qp - 366) = true := (inI32_iff _).mpr (by omega)
  simp (disch := omega) only [chk, hqp', hquads, hc, ↓reduceIte, hq, decomposeJulian_eq, ed]

theorem gregorian2jdn_eq (year ordinal : Int) (hy : InI32 year) (h1 : 1 ≤ ordinal)
    (h2 : ordinal ≤ 366) :
    gregorian2jdn year ordinal = some (JV.gregorian2jdn year ordinal) := by
  simp (disch := omega) only [gregorian2jdn, JV.gregorian2jdn, chk]
  rfl

theorem gapKindForDates_eq (y : Int) (m : Month) (y' : Int) (m' : Month) (hy : InI32 (y + 1)) :
    gapKindForDates y m y' m' = some (GapKind.forDates y m y' m') := by
  simp (disch := omega) only [gapKindForDates, GapKind.forDates, chk]

/-- inner.rs `cmp_int_range`: none of its `debug_assert!`s fires when `lower ≤ upper` (what
`ReformGap::cmp_year` passes), and the result is the pure model's: the same decision tree up to
the assertions, each of which follows from the tests above it and `h` -/
theorem cmpIntRange_eq (value : Int) {lower upper : Int} (h : lower ≤ upper) :
    cmpIntRange value lower upper = some (JV.cmpIntRange value lower upper) := by
  simp only [cmpIntRange, JV.cmpIntRange, pure, Bool.not_eq_true', decide_eq_false_iff_not,
    beq_iff_eq, beq_eq_false_iff_ne, ne_eq]
  grind

/-- inner.rs `cmp_ym_range`: no `debug_assert!` fires when the lower (year, month) pair is not
after the upper one (what `ReformGap::cmp_year_month` passes: last Julian month ≤ first
Gregorian month), and the result is the pure model's.  The two functions are the same decision
tree up to the assertions, each of which follows from the tests above it and `h0`. -/
theorem cmpYmRange_eq (y : Int) (m : Month) {ly : Int} {lm : Month} {uy : Int} {um : Month}
    (h0 : ymKey ly lm ≤ ymKey uy um) :
    cmpYmRange (y, m) (ly, lm) (uy, um) = some (JV.cmpYmRange y m ly lm uy um) := by
  have bl := Month.number_bounds lm; have bu := Month.number_bounds um
  simp only [cmpYmRange, JV.cmpYmRange, ymKey, Month.lt, Month.le, Month.beq_eq_decide,
    Bool.or_eq_true, Bool.and_eq_true, decide_eq_true_eq, beq_iff_eq, Bool.not_eq_true',
    decide_eq_false_iff_not, pure, Bool.or_eq_false_iff, Bool.and_eq_false_imp,
    beq_eq_false_iff_ne, ne_eq] at h0 ⊢
  grind

end JV.Chk
