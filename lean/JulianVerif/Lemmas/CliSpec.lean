/-
Lemmas/CliSpec.lean — what each argument of the julian command contributes, in text and in
JSON mode; a printed date is read as a date, a '-' and digits as a day number.
-/
import JulianVerif.Lemmas.CliRun
import JulianVerif.Lemmas.Digits
namespace JV
namespace Cli

/-- the date an argument denotes in the selected calendar: the date written, or the date of
the day number written -/
def argDate (o : Options) (a : String) : Option Date :=
  match o.parseArg a with
  | none => none
  | some (.date d) => some d
  | some (.jdn j) => o.calendar.atJdn? j

/-- the text-mode line for an argument that denotes `d` -/
def textLine (o : Options) (a : String) (d : Date) : String :=
  match o.parseArg a with
  | some (.jdn j) => (if o.quiet then "" else s!"JDN {j} = ") ++ o.fmtDate d
  | _ => (if o.quiet then "" else o.fmtDate d ++ " = JDN ") ++ toString d.jdn

/-- an argument that denotes a date gets that date's line; one that denotes none fails: as a panic
when it was read as a day number (`at_jdn`), as `ParsingFailed` otherwise -/
theorem argLine_eq (o : Options) (a : String) :
    argLine o a = match argDate o a with
      | some d => .ok (if o.json then date2json d else textLine o a d)
      | none => .error (o.parseArg a).isSome := by
  simp only [argLine, argDate, textLine, Options.dateToJdn, Options.jdnToDate]
  cases o.parseArg a with
  | none => rfl
  | some x =>
    cases x with
    | date d => cases o.json <;> cases o.quiet <;> rfl
    | jdn j =>
      dsimp only
      cases o.calendar.atJdn? j with
      | none => rfl
      | some d => cases o.json <;> cases o.quiet <;> rfl

theorem argLine_ok_iff (o : Options) (a : String) (l : String) :
    argLine o a = .ok l ↔
      ∃ d, argDate o a = some d ∧ l = (if o.json then date2json d else textLine o a d) := by
  rw [argLine_eq]
  cases argDate o a with
  | none => exact ⟨nofun, fun ⟨_, h, _⟩ => nomatch h⟩
  | some d => exact ⟨fun h => ⟨d, rfl, (Except.ok.inj h).symm⟩, fun ⟨_, h, hl⟩ => by cases h; rw [hl]⟩

theorem argLines_getElem (o : Options) {args ls : List String} (h : argLines o args = .ok ls)
    (i : Nat) (h1 : i < args.length) (h2 : i < ls.length) :
    ∃ d, argDate o args[i] = some d
      ∧ ls[i] = (if o.json then date2json d else textLine o args[i] d) :=
  (argLine_ok_iff o _ _).mp (((argLines_ok_iff o args ls).mp h).2 i h1 h2)

/-- the date an argument denotes does not depend on the output options -/
theorem argDate_output_independent (o : Options) (a : String) (j od q st : Bool) :
    argDate { o with json := j, ordinal := od, quiet := q, style := st } a = argDate o a := rfl

theorem dash_after_first (p rest : List Char) (hp : 1 ≤ p.length) :
    ((p ++ '-' :: rest).drop 1).contains '-' = true := by
  rw [List.drop_append_of_le_length hp]
  simp

theorem fmtYear_length (y : Int) : 1 ≤ (fmtYear y).length := by
  have h := (padNat_allDigits 4 y.natAbs).1
  have := List.length_pos_iff.mpr h
  simp only [fmtYear]; split
  · simp
  · omega

/-- both date forms contain a '-' after their first character, so `parse_arg` takes them as
dates — also for negative years -/
theorem fmt_is_date_arg (d : Date) :
    ((fmtDate d).drop 1).contains '-' = true ∧ ((fmtDateAlt d).drop 1).contains '-' = true := by
  have hy := fmtYear_length d.year
  constructor
  · have : fmtDate d = fmtYear d.year ++ '-' :: (padNat 2 d.month.number.toNat ++ ['-'] ++ padNat 2 d.day.toNat) := by
      simp [fmtDate]
    rw [this]; exact dash_after_first _ _ hy
  · have : fmtDateAlt d = fmtYear d.year ++ '-' :: padNat 3 d.ordinal.toNat := by
      simp [fmtDateAlt]
    rw [this]; exact dash_after_first _ _ hy

theorem digits_no_dash : ∀ l : List Char, l.all isAsciiDigit = true → l.contains '-' = false
  | [], _ => rfl
  | x :: xs, h => by
    simp only [List.all_cons, Bool.and_eq_true] at h
    simp only [List.contains_cons, Bool.or_eq_false_iff]
    exact ⟨beq_false_of_ne (digit_ne_sign h.1).1.symm, digits_no_dash xs h.2⟩

/-- `"-" ++ c.toString ++ s` is the argument `from_parser` re-assembles from the short-option form
`-c…` (`takeDigit`): it parses as the negative integer -/
theorem neg_is_jdn (o : Options) (c : Char) (hc : isAsciiDigit c = true) (s : String)
    (hs : s.toList.all isAsciiDigit = true) :
    o.parseArg ("-" ++ c.toString ++ s)
      = (if inI32 (-(digitsVal (c :: s.toList) 0 : Int)) then some (.jdn (-(digitsVal (c :: s.toList) 0 : Int)))
         else none) := by
  have hl : ("-" ++ c.toString ++ s).toList = '-' :: c :: s.toList := by simp [String.toList_append]
  have hall : (c :: s.toList).all isAsciiDigit = true := by simp [hc, hs]
  have hnd := digits_no_dash _ hall
  have hp : parseI32 ('-' :: c :: s.toList)
      = (if inI32 (-(digitsVal (c :: s.toList) 0 : Int)) then some (-(digitsVal (c :: s.toList) 0 : Int))
         else none) := by
    have hne : ((c :: s.toList).isEmpty || !(c :: s.toList).all isAsciiDigit) = false := by
      rw [hall]; rfl
    simp only [parseI32, beq_self_eq_true, if_true, hne, Bool.false_eq_true, if_false]
  simp only [Options.parseArg, hl, List.drop_one, List.tail_cons, hnd, Bool.false_eq_true, if_false, hp]
  by_cases hin : inI32 (-(digitsVal (c :: s.toList) 0 : Int)) = true
  · simp only [hin, if_true]
  · simp only [hin, if_false, Bool.false_eq_true]

end Cli
end JV
