/-
Lemmas/ChkAttr.lean — the simp set `chk` (an attribute is declared in a module of its own).
-/
import Lean.Meta.Tactic.Simp.RegisterCommand

/-- The lemmas of Lemmas/CheckedKernels.lean that run a checked `do` block:
`simp (disch := omega) only [f, chk]` executes `Chk.f` from its head, one range fact per step, proved by
`omega` from the context.  Steps, monad laws and `ite_bind` (a value computed in two branches: the rest of
the block is run in each) are `↓` lemmas on purpose: the continuation of a step speaks of a bound variable
nothing is known about yet, and trying a step there costs a failed `omega` call per step and pass.  The
tests of the block are turned into propositions, and core's `ite_congr` puts each into the context of
its two branches, so that a step sees the tests that lead to it. -/
register_simp_attr chk
