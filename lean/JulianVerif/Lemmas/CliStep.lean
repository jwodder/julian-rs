/-
Lemmas/CliStep.lean — the body of the loop in `Command::from_parser` as a function of its
own (`step`), what an option letter or name asks for as data (`Action`), and `from_parser`
without the fuel (`parse`): everything later said about option parsing is said about these.
Last, lexopt's reading of the forms a raw argument can take.
-/
import JulianVerif.Model.Cli
namespace JV
namespace Cli

/-- the switches that take no value -/
inductive Flag where
  | julian | json | ordinal | quiet | style
  deriving DecidableEq, Repr

def Flag.apply (o : Options) : Flag → Options
  | .julian => { o with calendar := .julian }
  | .json => { o with json := true }
  | .ordinal => { o with ordinal := true }
  | .quiet => { o with quiet := true }
  | .style => { o with style := true }

/-- `-c`, `-h`, `-V`: answered at once -/
inductive Early where
  | countries | help | version
  deriving DecidableEq

def Early.command : Early → Command
  | .countries => .countries
  | .help => .help
  | .version => .version

/-- what an option asks `from_parser` to do; the short and the long arm of its `match` differ
only in how they get here -/
inductive Action where
  | exit (e : Early)
  | flag (f : Flag)
  | reform
  | digit (c : Char)
  | bad
  deriving DecidableEq

def shortAction (c : Char) : Action :=
  if c == 'c' then .exit .countries
  else if c == 'h' then .exit .help
  else if c == 'V' then .exit .version
  else if c == 'j' then .flag .julian
  else if c == 'J' then .flag .json
  else if c == 'o' then .flag .ordinal
  else if c == 'q' then .flag .quiet
  else if c == 's' then .flag .style
  else if c == 'r' then .reform
  else if isAsciiDigit c then .digit c
  else .bad

def longAction (name : Bytes) : Action :=
  if name == bytesOf "countries" then .exit .countries
  else if name == bytesOf "help" then .exit .help
  else if name == bytesOf "version" then .exit .version
  else if name == bytesOf "julian" then .flag .julian
  else if name == bytesOf "json" then .flag .json
  else if name == bytesOf "ordinal" then .flag .ordinal
  else if name == bytesOf "quiet" then .flag .quiet
  else if name == bytesOf "style" then .flag .style
  else if name == bytesOf "reformation" then .reform
  else .bad

/-- one iteration of the loop: return, or go round again in a new state -/
inductive Step where
  | stop (c : Command)
  | more (p : Parser) (o : Options) (args : List String)

def Step.then (s : Step) (k : Parser → Options → List String → Command) : Command :=
  match s with
  | .stop c => c
  | .more p o args => k p o args

/-- `S` holds of what the step returns, or `M` of the state it goes on in -/
def Step.Sat (S : Command → Prop) (M : Parser → Options → List String → Prop) : Step → Prop
  | .stop c => S c
  | .more p o args => M p o args

variable {S S' : Command → Prop} {M M' : Parser → Options → List String → Prop}
  {p q p' : Parser} {o o' : Options} {args args' : List String}

theorem Step.Sat.mono {s : Step} (h : s.Sat S M) (hS : ∀ c, S c → S' c)
    (hM : ∀ p o args, M p o args → M' p o args) : s.Sat S' M' := by
  cases s with
  | stop c => exact hS c h
  | more p o args => exact hM p o args h

/-- the value of `-r` / `--reformation` -/
def takeReformation (p : Parser) (o : Options) (args : List String) : Step :=
  match p.value with
  | none => .stop .error
  | some (v, p) =>
    match bytesToString? v with
    | none => .stop .error
    | some s =>
      match parseReformation s with
      | some cal => .more p { o with calendar := cal } args
      | none => .stop .error

/-- `-5…`: a negative number, put together again from the "option" and its "value" -/
def takeDigit (c : Char) (p : Parser) (o : Options) (args : List String) : Step :=
  match p.optionalValue with
  | (some v, p) =>
    match bytesToString? v with
    | some s => .more p o (("-" ++ c.toString ++ s) :: args)
    | none => .stop .error
  | (none, p) => .more p o (("-" ++ c.toString) :: args)

def Action.run (act : Action) (p : Parser) (o : Options) (args : List String) : Step :=
  match act with
  | .exit e => .stop e.command
  | .flag f => .more p (f.apply o) args
  | .reform => takeReformation p o args
  | .digit c => takeDigit c p o args
  | .bad => .stop .error

/-- the body of the `while let` loop of `from_parser`.  `fromParser_succ` below is the one place
where the two chains of `if`s in `fromParser` are walked: whatever else is proved about option
parsing is proved about `step`, `shortAction` and `longAction`. -/
def step (p : Parser) (o : Options) (args : List String) : Step :=
  match p.next with
  | .error => .stop .error
  | .done => .stop (.run o args.reverse)
  | .arg (.value v) q =>
    match bytesToString? v with
    | some s => .more q o (s :: args)
    | none => .stop .error
  | .arg (.short c) q => (shortAction c).run q o args
  | .arg (.long name) q => (longAction name).run q o args

section
variable (p : Parser) (o : Options) (args : List String)
  (k : Parser → Options → List String → Command)

theorem takeReformation_then :
    (takeReformation p o args).then k =
      match p.value with
      | none => .error
      | some (v, p) =>
        match bytesToString? v with
        | none => .error
        | some s =>
          match parseReformation s with
          | some cal => k p { o with calendar := cal } args
          | none => .error := by
  unfold takeReformation
  cases p.value with
  | none => rfl
  | some r =>
    obtain ⟨v, q⟩ := r
    dsimp only
    cases bytesToString? v with
    | none => rfl
    | some s => dsimp only; cases parseReformation s <;> rfl

theorem takeDigit_then (c : Char) :
    (takeDigit c p o args).then k =
      match p.optionalValue with
      | (some v, p) =>
        match bytesToString? v with
        | some s => k p o (("-" ++ c.toString ++ s) :: args)
        | none => .error
      | (none, p) => k p o (("-" ++ c.toString) :: args) := by
  unfold takeDigit
  rcases p.optionalValue with ⟨_ | v, q⟩
  · rfl
  · dsimp only; cases bytesToString? v <;> rfl

theorem fromParser_succ (n : Nat) :
    fromParser (n + 1) p o args = (step p o args).then (fromParser n) := by
  rw [fromParser, step]
  cases p.next with
  | error => rfl
  | done => rfl
  | arg x q =>
    cases x with
    | value v => dsimp only; cases bytesToString? v <;> rfl
    -- push `run` and `then` through the chain of `if`s; its leaves then agree by computation
    | short c =>
      simp only [shortAction, apply_ite fun a : Action => (a.run q o args).then (fromParser n)]
      simp only [Action.run, takeReformation_then, takeDigit_then]
      rfl
    | long name =>
      simp only [longAction, apply_ite fun a : Action => (a.run q o args).then (fromParser n)]
      simp only [Action.run, takeReformation_then]
      rfl

end

theorem fromParser_sat {I : Parser → Options → List String → Prop}
    (herr : S .error) (hstep : ∀ p o args, I p o args → (step p o args).Sat S I) :
    ∀ (n : Nat) (p : Parser) (o : Options) (args : List String), I p o args →
      S (fromParser n p o args)
  | 0, _, _, _, _ => herr
  | n + 1, p, o, args, h => by
    have hs := hstep p o args h
    rw [fromParser_succ]
    cases hst : step p o args with
    | stop c => rw [hst] at hs; exact hs
    | more p' o' args' => rw [hst] at hs; exact fromParser_sat herr hstep n p' o' args' hs

section
variable (p : Parser) (o : Options) (args : List String)

theorem takeReformation_spec :
    (takeReformation p o args).Sat (· = .error) fun p' o' args' =>
      ∃ v s cal, p.value = some (v, p') ∧ bytesToString? v = some s
        ∧ parseReformation s = some cal ∧ o' = { o with calendar := cal } ∧ args' = args := by
  unfold takeReformation
  cases hv : p.value with
  | none => exact rfl
  | some r =>
    obtain ⟨v, q⟩ := r
    dsimp only
    cases hb : bytesToString? v with
    | none => exact rfl
    | some s =>
      dsimp only
      cases hc : parseReformation s with
      | none => exact rfl
      | some cal => exact ⟨v, s, cal, rfl, hb, hc, rfl, rfl⟩

theorem takeDigit_spec (c : Char) :
    (takeDigit c p o args).Sat (· = .error) fun p' o' _ => p' = p.optionalValue.2 ∧ o' = o := by
  unfold takeDigit
  rcases p.optionalValue with ⟨_ | v, q⟩
  · exact ⟨rfl, rfl⟩
  · dsimp only
    cases bytesToString? v with
    | none => exact rfl
    | some s => exact ⟨rfl, rfl⟩

end

section
variable (o : Options) (args : List String) {v : Bytes} {s : String}

theorem takeReformation_ok {cal : Calendar} (hp : p.value = some (v, q))
    (hv : bytesToString? v = some s) (hc : parseReformation s = some cal) :
    takeReformation p o args = .more q { o with calendar := cal } args := by
  simp only [takeReformation, hp, hv, hc]

theorem takeDigit_none (c : Char) (hp : p.optionalValue = (none, q)) :
    takeDigit c p o args = .more q o (("-" ++ c.toString) :: args) := by
  simp only [takeDigit, hp]

theorem takeDigit_some (c : Char) (hp : p.optionalValue = (some v, q))
    (hv : bytesToString? v = some s) :
    takeDigit c p o args = .more q o (("-" ++ c.toString ++ s) :: args) := by
  simp only [takeDigit, hp, hv]

theorem step_done (h : p.next = .done) : step p o args = .stop (.run o args.reverse) := by
  simp only [step, h]

theorem step_value (h : p.next = .arg (.value v) q) (hv : bytesToString? v = some s) :
    step p o args = .more q o (s :: args) := by
  simp only [step, h, hv]

theorem step_short {c : Char} (h : p.next = .arg (.short c) q) :
    step p o args = (shortAction c).run q o args := by
  simp only [step, h]

theorem step_long {name : Bytes} (h : p.next = .arg (.long name) q) :
    step p o args = (longAction name).run q o args := by
  simp only [step, h]

end

/-! `fromParser` recurses on a fuel counter only so as to be structural.  Every `step` lowers
`Parser.measure`, so any fuel above the measure gives the same answer, and `parse` is
`from_parser` with the counter out of sight. -/

def srcMeasure (src : List Bytes) : Nat := (src.map fun a => a.length + 2).sum

/-- how many `from_parser` iterations are still possible at most -/
def Parser.measure (p : Parser) : Nat :=
  srcMeasure p.source +
    match p.state with
    | .none => 0
    | .pendingValue _ => 1
    | .shorts arg pos => (arg.length - pos) + 1
    | .finishedOpts => 0

theorem srcMeasure_cons (a : Bytes) (src : List Bytes) :
    srcMeasure (a :: src) = a.length + 2 + srcMeasure src := by
  simp [srcMeasure]

theorem measure_mk (st : LState) (src : List Bytes) :
    (Parser.mk st src).measure = srcMeasure src + match st with
      | .none => 0
      | .pendingValue _ => 1
      | .shorts arg pos => (arg.length - pos) + 1
      | .finishedOpts => 0 := rfl

theorem nextFresh_measure {src : List Bytes} {a : Arg}
    (h : Parser.nextFresh ⟨.none, src⟩ = .arg a p') : p'.measure < srcMeasure src := by
  -- form by form: every answer has taken the raw argument off `src`, whatever state it leaves
  unfold Parser.nextFresh at h
  cases src with
  | nil => cases h
  | cons arg rest =>
    rw [srcMeasure_cons]
    dsimp only at h
    by_cases h1 : (arg == [dash, dash]) = true
    · rw [if_pos h1] at h
      cases rest with
      | nil => cases h
      | cons v rest' => cases h; simp only [measure_mk, srcMeasure_cons]; omega
    rw [if_neg h1] at h
    by_cases h2 : (arg.take 2 == [dash, dash]) = true
    · rw [if_pos h2] at h
      generalize arg.idxOf? eqSign = i at h
      cases i <;> cases h <;> simp only [measure_mk] <;> omega
    rw [if_neg h2] at h
    by_cases h3 : (decide (arg.length > 1) && arg.head? == some dash) = true
    · rw [if_pos h3] at h
      by_cases h4 : arg.getD 1 0 < 128
      · rw [if_pos h4] at h; cases h; simp only [measure_mk]; omega
      · rw [if_neg h4] at h; cases h; simp only [measure_mk]; omega
    · rw [if_neg h3] at h; cases h; simp only [measure_mk]; omega

theorem next_measure {a : Arg} (h : p.next = .arg a p') : p'.measure < p.measure := by
  obtain ⟨st, src⟩ := p
  unfold Parser.next at h
  cases st with
  | none => exact nextFresh_measure h
  | pendingValue v => cases h
  | finishedOpts =>
    cases src with
    | nil => cases h
    | cons v rest => cases h; simp only [measure_mk, srcMeasure_cons]; omega
  | shorts arg pos =>
    dsimp only at h
    by_cases h1 : pos ≥ arg.length
    · rw [if_pos h1] at h
      have := nextFresh_measure h
      simp only [measure_mk]; omega
    rw [if_neg h1] at h
    by_cases h2 : (arg.getD pos 0 == eqSign && decide (pos > 1)) = true
    · rw [if_pos h2] at h; cases h
    rw [if_neg h2] at h
    by_cases h3 : arg.getD pos 0 < 128
    · rw [if_pos h3] at h; cases h; simp only [measure_mk]; omega
    · rw [if_neg h3] at h; cases h; simp only [measure_mk]; omega

theorem optionalValue_measure (p : Parser) : p.optionalValue.2.measure ≤ p.measure := by
  obtain ⟨st, src⟩ := p
  unfold Parser.optionalValue
  cases st with
  | shorts arg pos =>
    dsimp only
    by_cases h : pos ≥ arg.length
    · rw [if_pos h]; simp only [measure_mk]; omega
    · rw [if_neg h]; simp only [measure_mk]; omega
  | _ => simp only [measure_mk]; omega

theorem value_measure {v : Bytes} (h : p.value = some (v, p')) : p'.measure ≤ p.measure := by
  have ho := optionalValue_measure p
  unfold Parser.value at h
  generalize p.optionalValue = r at h ho
  obtain ⟨_ | w, ⟨st, src⟩⟩ := r
  · cases src with
    | nil => cases h
    | cons w rest =>
      cases h
      simp only [measure_mk, srcMeasure_cons] at ho ⊢; omega
  · cases h; exact ho

theorem Action.run_measure (act : Action) (p : Parser) (o : Options) (args : List String) :
    (act.run p o args).Sat (fun _ => True) fun p' _ _ => p'.measure ≤ p.measure := by
  cases act with
  | exit e => trivial
  | flag f => exact Nat.le_refl _
  | reform =>
    exact (takeReformation_spec p o args).mono (fun _ _ => trivial)
      fun _ _ _ ⟨_, _, _, hv, _⟩ => value_measure hv
  | digit c =>
    exact (takeDigit_spec p o args c).mono (fun _ _ => trivial)
      fun _ _ _ ⟨h, _⟩ => h ▸ optionalValue_measure p
  | bad => trivial

theorem step_measure (h : step p o args = .more p' o' args') : p'.measure < p.measure := by
  suffices hs : (step p o args).Sat (fun _ => True) fun p' _ _ => p'.measure < p.measure by
    rw [h] at hs; exact hs
  unfold step
  cases hn : p.next with
  | error => trivial
  | done => trivial
  | arg x q =>
    have hq := next_measure hn
    cases x with
    | value v =>
      dsimp only
      cases bytesToString? v with
      | none => trivial
      | some s => exact hq
    | short c =>
      exact (Action.run_measure _ q o args).mono (fun _ h => h) fun _ _ _ h => Nat.lt_of_le_of_lt h hq
    | long name =>
      exact (Action.run_measure _ q o args).mono (fun _ h => h) fun _ _ _ h => Nat.lt_of_le_of_lt h hq

theorem fromParser_fuel {f1 f2 : Nat} (o : Options) (args : List String)
    (h1 : p.measure < f1) (h2 : p.measure < f2) :
    fromParser f1 p o args = fromParser f2 p o args := by
  induction f1 generalizing f2 p o args with
  | zero => omega
  | succ n ih =>
    obtain ⟨m, rfl⟩ : ∃ m, f2 = m + 1 := ⟨f2 - 1, by omega⟩
    rw [fromParser_succ, fromParser_succ]
    cases hs : step p o args with
    | stop c => rfl
    | more p' o' args' =>
      have := step_measure hs
      exact ih o' args' (by omega) (by omega)

/-- `from_parser`, without the fuel -/
def parse (p : Parser) (o : Options) (args : List String) : Command :=
  fromParser (p.measure + 1) p o args

theorem fromParser_eq_parse {f : Nat} (o : Options) (args : List String) (h : p.measure < f) :
    fromParser f p o args = parse p o args :=
  fromParser_fuel o args h (Nat.lt_succ_self _)

theorem parse_eq (p : Parser) (o : Options) (args : List String) :
    parse p o args = (step p o args).then parse := by
  rw [parse, fromParser_succ]
  cases hs : step p o args with
  | stop c => rfl
  | more p' o' args' => exact fromParser_eq_parse o' args' (step_measure hs)

theorem parse_of_stop {c : Command} (h : step p o args = .stop c) : parse p o args = c := by
  rw [parse_eq, h]; rfl

theorem parse_of_more (h : step p o args = .more p' o' args') :
    parse p o args = parse p' o' args' := by
  rw [parse_eq, h]; rfl

theorem measure_lt_fuelFor (argv : List Bytes) : (Parser.mk .none argv).measure < fuelFor argv := by
  show srcMeasure argv + 0 < srcMeasure argv + 2; omega

theorem parseCommand_eq_parse (argv : List Bytes) : parseCommand argv = parse ⟨.none, argv⟩ {} [] :=
  fromParser_eq_parse _ _ (measure_lt_fuelFor argv)

/-! What `Parser.next` makes of a raw argument, form by form.  In the byte lists 45 is `-` and
61 is `=`. -/

theorem parse_congr {p q : Parser} (h : p.next = q.next) (o : Options) (args : List String) :
    parse p o args = parse q o args := by
  rw [parse_eq, parse_eq, step, step, h]

theorem next_shorts_end {arg : Bytes} {pos : Nat} (h : arg.length ≤ pos) (src : List Bytes) :
    Parser.next ⟨.shorts arg pos, src⟩ = Parser.next ⟨.none, src⟩ := by
  simp only [Parser.next, ge_iff_le, h, if_true]

theorem value_shorts_end {arg : Bytes} {pos : Nat} (h : arg.length ≤ pos) (v : Bytes)
    (src : List Bytes) : Parser.value ⟨.shorts arg pos, v :: src⟩ = some (v, ⟨.none, src⟩) := by
  simp only [Parser.value, Parser.optionalValue, ge_iff_le, h, if_true]

/-- a raw argument that does not begin with `-`, or is `-` alone, is positional -/
theorem next_value {b : Bytes} (hn : ¬ (b.length > 1 ∧ b.head? = some 45)) (src : List Bytes) :
    Parser.next ⟨.none, b :: src⟩ = .arg (.value b) ⟨.none, src⟩ := by
  match b with
  | [] => rfl
  | [x] => simp [Parser.next, Parser.nextFresh, dash]
  | x :: y :: r =>
    have hx : x ≠ 45 := fun e => hn (by simp [e])
    simp [Parser.next, Parser.nextFresh, dash, hx]

/-- `-x…` with `x` not another `-`: a cluster of short options, entered at position 1 -/
theorem next_dash {x : UInt8} (hx : x ≠ 45) (r : Bytes) (src : List Bytes) :
    Parser.next ⟨.none, (45 :: x :: r) :: src⟩ = Parser.next ⟨.shorts (45 :: x :: r) 1, src⟩ := by
  simp [Parser.next, Parser.nextFresh, dash, eqSign, hx]

/-- `heq`: an `=` inside a cluster is lexopt's `UnexpectedValue` (`-o=…`), except right after the
dash -/
theorem next_shorts {arg : Bytes} {pos : Nat} {b : UInt8} (hb : arg[pos]? = some b) (h128 : b < 128)
    (heq : b ≠ 61 ∨ pos ≤ 1) (src : List Bytes) :
    Parser.next ⟨.shorts arg pos, src⟩
      = .arg (.short (Char.ofNat b.toNat)) ⟨.shorts arg (pos + 1), src⟩ := by
  have hlt : ¬ arg.length ≤ pos := by
    intro h; rw [List.getElem?_eq_none h] at hb; cases hb
  have hd : arg.getD pos 0 = b := by simp [List.getD, hb]
  have he : (b == eqSign && decide (pos > 1)) = false := by
    rcases heq with h | h
    · simp [eqSign, h]
    · simp; omega
  simp only [Parser.next, ge_iff_le, hlt, if_false, hd, he, Bool.false_eq_true, h128, if_true]

/-- `-x…` with an ASCII `x`: the option `x`, whatever it is (an `=` in position 1 is one too) -/
theorem step_dash {x : UInt8} (hx : x ≠ 45) (h128 : x < 128) (r : Bytes) (src : List Bytes)
    (o : Options) (args : List String) :
    step ⟨.none, (45 :: x :: r) :: src⟩ o args
      = (shortAction (Char.ofNat x.toNat)).run ⟨.shorts (45 :: x :: r) 2, src⟩ o args :=
  step_short o args ((next_dash hx r src).trans (next_shorts rfl h128 (.inr (Nat.le_refl 1)) src))

/-- what is left of `-xREST` after the option `x`: `REST` without one leading `=`, if any -/
theorem optionalValue_shorts (x : UInt8) (r : Bytes) (src : List Bytes) :
    Parser.optionalValue ⟨.shorts (45 :: x :: r) 2, src⟩
      = (if r = [] then none else some (if r.head? = some 61 then r.tail else r), ⟨.none, src⟩) := by
  cases r with
  | nil => simp [Parser.optionalValue]
  | cons y ys =>
    by_cases hy : y = 61
    · simp [Parser.optionalValue, hy]
    · simp [Parser.optionalValue, hy]

theorem next_long {name : Bytes} (hne : name ≠ []) (h : 61 ∉ name) (src : List Bytes) :
    Parser.next ⟨.none, (45 :: 45 :: name) :: src⟩ = .arg (.long name) ⟨.none, src⟩ := by
  have hi : List.idxOf? eqSign (45 :: 45 :: name) = none := by
    simp [List.idxOf?, List.findIdx?_cons, eqSign]
    intro x hx e; exact h (e ▸ hx)
  simp [Parser.next, Parser.nextFresh, dash, hne, hi]

theorem idxOf?_append_cons {a : UInt8} {l : List UInt8} (h : a ∉ l) (r : List UInt8) :
    List.idxOf? a (l ++ a :: r) = some l.length := by
  induction l with
  | nil => simp [List.idxOf?, List.findIdx?_cons]
  | cons x xs ih =>
    have hx : (x == a) = false := by
      cases hb : x == a with
      | false => rfl
      | true => exact absurd (by rw [eq_of_beq hb]; exact List.mem_cons_self) h
    have := ih (fun hm => h (List.mem_cons_of_mem _ hm))
    simp only [List.idxOf?] at this ⊢
    simp [List.findIdx?_cons, hx, this]

theorem next_longEq {name : Bytes} (h : 61 ∉ name) (v : Bytes) (src : List Bytes) :
    Parser.next ⟨.none, (45 :: 45 :: (name ++ 61 :: v)) :: src⟩
      = .arg (.long name) ⟨.pendingValue v, src⟩ := by
  have hi : List.idxOf? eqSign (45 :: 45 :: (name ++ 61 :: v)) = some (name.length + 2) := by
    have := idxOf?_append_cons (l := 45 :: 45 :: name) (a := 61) (by simpa using h) v
    simpa [eqSign] using this
  simp [Parser.next, Parser.nextFresh, dash, hi]

end Cli
end JV
