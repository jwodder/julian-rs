/-
Lemmas/Bounded.lean — what the unbounded model computes for a well-formed calendar is small:
a month has at most 31 days, a year at most 366, the numbers of the gap record lie within a
year.  `Bounded c` says so of one calendar; every `WF` calendar instantiates it.
-/
import JulianVerif.Lemmas.ShapedInst
namespace JV
open Spec

structure Bounded (c : Calendar) extends Shaped c where
  fits31 : ∀ y m s, c.monthIShape y m = some s → s.naturalMax ≤ 31
  ylen_le : ∀ y, c.yearLength y ≤ 366
  gapRange : ∀ gap, c.gap = some gap →
    0 ≤ gap.ordinalGap ∧ gap.ordinalGap ≤ 366
    ∧ c.yearLength gap.postReform.year + gap.ordinalGap ≤ 366
    ∧ 1 ≤ gap.postReform.ordinal
    ∧ 0 ≤ gap.preReform.day ∧ gap.preReform.day ≤ 31 ∧ 1 ≤ gap.postReform.day ∧ gap.postReform.day ≤ 31

namespace Bounded
variable {c : Calendar} (B : Bounded c)

include B in
theorem fits {y : Int} {m : Month} {s : IShape} (h : c.monthIShape y m = some s) : s.Fits :=
  ⟨B.proper y m s h, B.fits31 y m s h⟩

include B in
theorem ordinal2ymddo_inv {y o : Int} {r : Month × Int × Int} (h : c.ordinal2ymddo y o = .ok r) :
    1 ≤ o ∧ o ≤ c.yearLength y ∧ 1 ≤ r.2.2 ∧ r.2.2 ≤ 31 := by
  have hr := Calendar.ordinal2ymddo_ok_range h
  obtain ⟨m, s, d, hs, hw, _, hk1, hk2⟩ := c.ordinal2ymddo_of_range y (B.valid y) (B.lenSum y) hr.1 hr.2
  have := (B.fits hs).len_le
  rw [hw] at h; cases h
  exact ⟨hr.1, hr.2, hk1, Int.le_trans hk2 this⟩

include B in
/-- `.error .fault` is the `unreachable!()` after the unrolled month loop of `ordinal2ymddo` -/
theorem ordinal2ymddo_no_fault (y o : Int) : c.ordinal2ymddo y o ≠ .error .fault := by
  by_cases hr : 1 ≤ o ∧ o ≤ c.yearLength y
  · obtain ⟨m, s, d, _, hw, _⟩ := c.ordinal2ymddo_of_range y (B.valid y) (B.lenSum y) hr.1 hr.2
    rw [hw]; nofun
  · rw [Calendar.ordinal2ymddo_err hr]; nofun

include B in
theorem field_ranges {j : Int} {d : Date} (h : c.atJdn? j = some d) :
    c.jdnYearOrdinal j = (d.year, d.ordinal) ∧ 1 ≤ d.ordinal ∧ d.ordinal ≤ 366
      ∧ 1 ≤ d.dayOrdinal ∧ d.dayOrdinal ≤ 31 := by
  obtain ⟨h1, h2, hk⟩ := B.ordinal2ymddo_inv (atJdn?_parts h).2.2
  refine ⟨?_, h1, Int.le_trans h2 (B.ylen_le d.year), hk⟩
  simp only [Calendar.atJdn?] at h
  split at h <;> cases h
  rfl

end Bounded

def ruleCal_bounded (ρ : Rule) : Bounded (ruleCal ρ) where
  toShaped := ruleCal_shaped ρ
  fits31 := by
    intro y m s hs
    rw [ruleCal_whole ρ y m] at hs
    cases hs
    exact (monthLen_bounds (leap ρ y) m).2
  ylen_le := by
    intro y
    rw [ruleCal_yearLength]; exact (yearLen_bounds _ _).2
  gapRange := by
    intro gap h
    rw [ruleCal_gap] at h; cases h

namespace Reform
variable (rf : Reform)

def bounded : Bounded rf.cal where
  toShaped := rf.shaped
  fits31 := by
    intro y m s hs
    rw [(rf.shape_proper y m s hs).2]
    exact (monthLen_bounds _ m).2
  ylen_le := rf.yearLength_le
  gapRange := by
    intro gap h
    injection h with h
    subst h
    have bP := rf.oP_spec.2
    have bQ := rf.oQ_spec.2
    have lG := yearLen_bounds .gregorian rf.yQ
    have hge := rf.oQ_ge
    have vP := rf.validP
    have vQ := rf.validQ
    have := monthLen_bounds (leap .julian rf.yP) rf.mP
    have := monthLen_bounds (leap .gregorian rf.yQ) rf.mQ
    rw [rf.ordinalGap_eq, rf.postOrdinal_eq, rf.postYear_eq, rf.yearLength_yQ]
    simp only [gapAmt, oP', mkGap] at hge ⊢
    omega

end Reform

theorem WF.bounded {c : Calendar} (h : WF c) : Nonempty (Bounded c) := by
  rcases h.cases with rfl | rfl | ⟨rf, rfl, _⟩
  · exact ⟨ruleCal_bounded .julian⟩
  · exact ⟨ruleCal_bounded .gregorian⟩
  · exact ⟨rf.bounded⟩

end JV
