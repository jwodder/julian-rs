/-
Lemmas/Step.lean — `Date::succ` / `Date::pred` against `at_jdn`, for any calendar whose
years tile the line of day numbers (`YearTiling`).
-/
import JulianVerif.Lemmas.Walk
import JulianVerif.Lemmas.Ranges
namespace JV

/-- the years of `c` tile the day numbers: every day lies in the block of its year, blocks
of years that have dates follow each other without gaps or overlaps -/
structure YearTiling (c : Calendar) where
  F : Int → Int
  Live : Int → Prop
  block : ∀ j, ∃ d, c.atJdn? j = some d ∧ d.calendar = c ∧ d.jdn = j ∧ Live d.year
      ∧ d.ordinal = j - F d.year + 1 ∧ 1 ≤ d.ordinal ∧ d.ordinal ≤ c.yearLength d.year
  next : ∀ y, Live y → F (c.nextYearAfter y) = F y + c.yearLength y ∧ Live (c.nextYearAfter y)
  prev : ∀ y, Live y → F y = F (c.prevYearBefore y) + c.yearLength (c.prevYearBefore y)
      ∧ Live (c.prevYearBefore y)
  mono : ∀ y y', Live y → Live y' → y < y' → F y + c.yearLength y ≤ F y'
  pos : ∀ y, Live y → 0 < c.yearLength y

namespace YearTiling
variable {c : Calendar} (T : YearTiling c)

theorem block_unique (y y' j : Int) (hy : T.Live y) (hy' : T.Live y')
    (h1 : T.F y ≤ j) (h2 : j < T.F y + c.yearLength y)
    (h1' : T.F y' ≤ j) (h2' : j < T.F y' + c.yearLength y') : y = y' := by
  rcases Int.lt_trichotomy y y' with a | a | a
  · have := T.mono y y' hy hy' a; omega
  · exact a
  · have := T.mono y' y hy' hy a; omega

include T in
theorem block_of {j : Int} {d : Date} (h : c.atJdn? j = some d) :
    d.calendar = c ∧ d.jdn = j ∧ T.Live d.year ∧ d.ordinal = j - T.F d.year + 1
      ∧ 1 ≤ d.ordinal ∧ d.ordinal ≤ c.yearLength d.year := by
  obtain ⟨d0, hd0, r⟩ := T.block j
  rw [h] at hd0; cases hd0; exact r

include T in
/-- the date is written out as a record, so that `cases` on the equation gives a caller every
field at once -/
theorem atJdn_at {y o : Int} (hl : T.Live y) (h1 : 1 ≤ o) (h2 : o ≤ c.yearLength y) :
    ∃ m dd k, c.ordinal2ymddo y o = .ok (m, dd, k)
      ∧ c.atJdn? (T.F y + o - 1) = some ⟨c, y, o, m, dd, k, T.F y + o - 1⟩ := by
  obtain ⟨⟨cal, yr, ord, mo, dy, dor, jd⟩, hd, hc, hj, hl', ho, ho1, ho2⟩ := T.block (T.F y + o - 1)
  dsimp only at hc hj hl' ho ho1 ho2
  obtain rfl : yr = y :=
    T.block_unique yr y (T.F y + o - 1) hl' hl (by omega) (by omega) (by omega) (by omega)
  obtain rfl : ord = o := by omega
  subst hc hj
  exact ⟨mo, dy, dor, (atJdn?_parts hd).2.2, hd⟩

include T in
/-- C10: the successor of the date of day `j` is the date of day `j+1`, and is absent
exactly at the top of the 32-bit range -/
theorem succ_spec (j : Int) (hj : InI32 j) (d : Date) (h : c.atJdn? j = some d) :
    d.succ = if j = 2147483647 then none else c.atJdn? (j + 1) := by
  obtain ⟨hcal, hjdn, hl, ho, ho1, ho2⟩ := T.block_of h
  simp only [Date.succ, hjdn, hcal]
  by_cases hmax : j = 2147483647
  · subst hmax; simp [inI32]
  · have hin : inI32 (j + 1) = true := (inI32_iff _).mpr (by omega)
    simp only [hin, hmax, Bool.not_true, Bool.false_eq_true, if_false]
    by_cases hlast : d.ordinal + 1 ≤ c.yearLength d.year
    · -- the next day is in the same year
      obtain ⟨m, dd, k, hw, hd⟩ := T.atJdn_at hl (by omega) hlast
      rw [show j + 1 = T.F d.year + (d.ordinal + 1) - 1 by omega, hw, hd]
    · -- the next day is the first day of the next year that has dates
      obtain ⟨hn1, hn2⟩ := T.next d.year hl
      obtain ⟨m, dd, k, hw, hd⟩ := T.atJdn_at hn2 (Int.le_refl 1) (T.pos _ hn2)
      rw [show j + 1 = T.F (c.nextYearAfter d.year) + 1 - 1 by omega,
        Calendar.ordinal2ymddo_err (fun h => hlast h.2)]
      simp only [hw, hd]

include T in
/-- C10: the predecessor of the date of day `j` is the date of day `j-1`, and is absent
exactly at the bottom of the 32-bit range -/
theorem pred_spec (j : Int) (hj : InI32 j) (d : Date) (h : c.atJdn? j = some d) :
    d.pred = if j = -2147483648 then none else c.atJdn? (j - 1) := by
  obtain ⟨hcal, hjdn, hl, ho, ho1, ho2⟩ := T.block_of h
  simp only [Date.pred, hjdn, hcal]
  by_cases hmin : j = -2147483648
  · subst hmin; simp [inI32]
  · have hin : inI32 (j - 1) = true := (inI32_iff _).mpr (by omega)
    simp only [hin, hmin, Bool.not_true, Bool.false_eq_true, if_false]
    by_cases hfirst : d.ordinal > 1
    · obtain ⟨m, dd, k, hw, hd⟩ := T.atJdn_at hl (show 1 ≤ d.ordinal - 1 by omega) (by omega)
      rw [if_pos hfirst, show j - 1 = T.F d.year + (d.ordinal - 1) - 1 by omega]
      simp only [hw, hd]
    · -- the previous day is the last day of the previous year that has dates
      obtain ⟨hp1, hpl⟩ := T.prev d.year hl
      obtain ⟨m, dd, k, hw, hd⟩ := T.atJdn_at hpl (T.pos _ hpl) (Int.le_refl _)
      rw [if_neg hfirst, show j - 1 = T.F (c.prevYearBefore d.year)
        + c.yearLength (c.prevYearBefore d.year) - 1 by omega]
      simp only [hw, hd]

end YearTiling
end JV
