/-
Lemmas/GenScan.lean — inner.rs `scan` as generated (Model/GenLib.lean `scanG`) is
`s.char_indices().find(|&(_, ch)| !predicate(ch)).map_or_else(|| s.len(), |(i, _)| i)` followed by
`s.split_at(boundary)`, with byte offsets.  `find` stops where the prefix `Str.scanSt` accepts ends, and
`split_at` at the byte length of a prefix succeeds: what Props/C13 `generated_scan` rests on.
-/
import JulianVerif.Model.GenLib
namespace JV.Gen

theorem cbytes_pos (c : Char) : 0 < Str.cbytes c := by
  have := Char.utf8Size_pos c
  simp only [Str.cbytes]; omega

theorem byteLen_nonneg (s : List Char) : 0 ≤ Str.byteLen s := by
  induction s with
  | nil => simp [Str.byteLen]
  | cons c cs ih => have := cbytes_pos c; simp only [Str.byteLen]; omega

theorem byteLen_append (a b : List Char) : Str.byteLen (a ++ b) = Str.byteLen a + Str.byteLen b := by
  induction a with
  | nil => simp [Str.byteLen]
  | cons c cs ih => simp only [List.cons_append, Str.byteLen, ih]; omega

theorem splitAt_prefix (pre rest : List Char) :
    Str.splitAt (pre ++ rest) (Str.byteLen pre) = some (pre, rest) := by
  induction pre with
  | nil => rw [Str.splitAt.eq_def]; simp [Str.byteLen]
  | cons c cs ih =>
    have hc := cbytes_pos c
    have hn := byteLen_nonneg cs
    have h0 : ¬ (Str.cbytes c + Str.byteLen cs = 0) := by omega
    have h1 : ¬ (Str.cbytes c + Str.byteLen cs < Str.cbytes c) := by omega
    have h2 : Str.cbytes c + Str.byteLen cs - Str.cbytes c = Str.byteLen cs := by omega
    simp only [List.cons_append, Str.byteLen]
    rw [Str.splitAt]
    simp only [h0, h1, if_false, h2, ih, Option.map]

/-- the closure `scan` hands to `find`: "the predicate refuses this character" -/
def refuses {σ : Type} (p : σ → Char → Bool × σ) (st : σ) (q : Int × Char) : Bool × σ :=
  (!(p st q.2).1, (p st q.2).2)

/-- `find` over the `char_indices` from offset `off` stops at the end of the prefix `scanSt` computes -/
theorem find_scan {σ : Type} (p : σ → Char → Bool × σ) (s : List Char) : ∀ (st : σ) (off : Int),
    Str.findSt (refuses p) st (Str.charIndicesFrom off s)
      = (match (Str.scanSt p st s).1.2 with
          | [] => none
          | c :: _ => some (off + Str.byteLen (Str.scanSt p st s).1.1, c),
         (Str.scanSt p st s).2) := by
  induction s with
  | nil => intro st off; simp [Str.findSt, Str.charIndicesFrom, Str.scanSt]
  | cons c cs ih =>
    intro st off
    simp only [Str.charIndicesFrom, Str.findSt, Str.scanSt, refuses]
    rcases hp : p st c with ⟨b, st'⟩
    cases b with
    | false => simp [Str.byteLen]
    | true =>
      simp only [Bool.not_true]
      rw [ih st' (off + Str.cbytes c)]
      rcases hs : Str.scanSt p st' cs with ⟨⟨ds, rest⟩, st''⟩
      simp only [Str.byteLen]
      cases rest with
      | nil => rfl
      | cons r rs => simp only [Prod.mk.injEq, Option.some.injEq, and_true]; omega

theorem scanSt_append {σ : Type} (p : σ → Char → Bool × σ) (s : List Char) : ∀ (st : σ),
    (Str.scanSt p st s).1.1 ++ (Str.scanSt p st s).1.2 = s := by
  induction s with
  | nil => intro st; simp [Str.scanSt]
  | cons c cs ih =>
    intro st
    simp only [Str.scanSt]
    rcases hp : p st c with ⟨b, st'⟩
    cases b with
    | false => simp
    | true =>
      have := ih st'
      rcases hs : Str.scanSt p st' cs with ⟨⟨ds, rest⟩, st''⟩
      rw [hs] at this
      simp only [hs]
      simpa using this

end JV.Gen
