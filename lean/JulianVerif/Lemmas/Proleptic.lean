/-
Lemmas/Proleptic.lean — the two proleptic calendars: `at_jdn`, `at_ymd`,
`at_ordinal_date`, `get_jdn` against the specification.
-/
import JulianVerif.Lemmas.Walk
import JulianVerif.Lemmas.Arith
namespace JV
open Spec

/-- the proleptic calendar that follows rule `ρ` -/
def ruleCal : Rule → Calendar
  | .julian => .julian
  | .gregorian => .gregorian

theorem ruleCal_yearKind (ρ : Rule) (y : Int) :
    (ruleCal ρ).yearKind y = if leap ρ y then .leap else .common := by
  cases ρ <;> simp only [ruleCal, Calendar.yearKind, isJulianLeapYear_eq, isGregorianLeapYear_eq]

theorem ruleCal_gap (ρ : Rule) : (ruleCal ρ).gap = none := by cases ρ <;> rfl

theorem ruleCal_whole (ρ : Rule) (y : Int) : WholeYear (ruleCal ρ) y (leap ρ y) := by
  intro m
  simp only [Calendar.monthIShape, ruleCal_gap, Calendar.naturalLength, ruleCal_yearKind]
  cases m <;> cases leap ρ y <;> simp [monthLen, YearKind.isLeap]

theorem ruleCal_yearLength (ρ : Rule) (y : Int) : (ruleCal ρ).yearLength y = yearLen ρ y := by
  simp only [Calendar.yearLength, ruleCal_yearKind, yearLen]
  cases ρ <;> cases leap _ y <;> rfl

/-- year / day-of-year of a day number under rule ρ, as the code computes it -/
def jdn2yo : Rule → Int → Int × Int
  | .julian, j => jdn2julian j
  | .gregorian, j => jdn2gregorian j

theorem jdn2yo_spec {ρ : Rule} {j y o : Int} (h : jdn2yo ρ j = (y, o)) :
    j = yearStart ρ y + o - 1 ∧ 1 ≤ o ∧ o ≤ yearLen ρ y := by
  cases ρ
  · exact jdn2julian_spec h
  · exact jdn2gregorian_spec h

theorem ruleCal_jdnYearOrdinal (ρ : Rule) (j : Int) :
    (ruleCal ρ).jdnYearOrdinal j = jdn2yo ρ j := by
  cases ρ <;> simp [ruleCal, Calendar.jdnYearOrdinal, Calendar.gap, jdn2yo]

theorem ruleCal_ordinal2ymddo (ρ : Rule) (y o : Int) (h1 : 1 ≤ o) (h2 : o ≤ yearLen ρ y) :
    ∃ m d, (ruleCal ρ).ordinal2ymddo y o = .ok (m, d, d)
      ∧ daysBefore (leap ρ y) m + d = o ∧ 1 ≤ d ∧ d ≤ monthLen (leap ρ y) m := by
  have hw := ruleCal_whole ρ y
  have hlen : (ruleCal ρ).yearLength y = (ruleCal ρ).sumAll y Month.all := by
    rw [ruleCal_yearLength, hw.sumAll]; rfl
  obtain ⟨m, s, day, hs, hl, hn, hk1, hk2⟩ :=
    (ruleCal ρ).ordinal2ymddo_of_range y hw.valid hlen h1 (by rw [ruleCal_yearLength]; exact h2)
  cases (hw m).symm.trans hs
  rw [hw.prefixSum_eq] at hl hn hk1 hk2
  rw [IShape.nthDay, if_pos (by simpa using ⟨hk1, hk2⟩)] at hn
  cases hn
  exact ⟨m, _, hl, by omega, hk1, hk2⟩

/-- the year / day-of-year the code computes for a day number are those of its label -/
theorem jdn2yo_label (ρ : Rule) (j : Int) :
    ∃ y m d, jdn2yo ρ j = (y, daysBefore (leap ρ y) m + d) ∧ IsDate ρ j y m d
      ∧ (ruleCal ρ).ordinal2ymddo y (daysBefore (leap ρ y) m + d) = .ok (m, d, d) := by
  obtain ⟨y, o, hyo⟩ : ∃ y o, jdn2yo ρ j = (y, o) := ⟨_, _, rfl⟩
  obtain ⟨hj, ho1, ho2⟩ := jdn2yo_spec hyo
  obtain ⟨m, d, hl, rfl, hd1, hd2⟩ := ruleCal_ordinal2ymddo ρ y o ho1 ho2
  exact ⟨y, m, d, hyo, ⟨⟨hd1, hd2⟩, by simp only [jdnOf]; omega⟩, hl⟩

theorem ruleCal_atJdn (ρ : Rule) (j : Int) :
    ∃ y m d, (ruleCal ρ).atJdn? j
        = some ⟨ruleCal ρ, y, daysBefore (leap ρ y) m + d, m, d, d, j⟩
      ∧ IsDate ρ j y m d := by
  obtain ⟨y, m, d, hyo, hd, hl⟩ := jdn2yo_label ρ j
  exact ⟨y, m, d, by simp only [Calendar.atJdn?, ruleCal_jdnYearOrdinal, hyo, hl], hd⟩

theorem ruleCal_getJdn (ρ : Rule) (y o : Int) (h1 : 1 ≤ o) (h2 : o ≤ 366) :
    (ruleCal ρ).getJdn y o = if InI32 (yearStart ρ y + o - 1) then some (yearStart ρ y + o - 1)
                             else none := by
  cases ρ
  · simp only [ruleCal, Calendar.getJdn, Calendar.gap, if_true]
    exact julian2jdn_spec y o h1 h2
  · simp only [ruleCal, Calendar.getJdn, Calendar.gap, Bool.false_eq_true, if_false]
    exact gregorian2jdn_spec y o h1 h2

theorem ruleCal_getDayOrdinal (ρ : Rule) (y : Int) (m : Month) (d : Int) :
    (ruleCal ρ).getDayOrdinal y m d
      = if 1 ≤ d ∧ d ≤ monthLen (leap ρ y) m then .ok d
        else .error (.dayOutOfRange y m d 1 (monthLen (leap ρ y) m)) := by
  simp only [Calendar.getDayOrdinal, ruleCal_whole ρ y m, IShape.dayOrdinalErr]
  by_cases h : 1 ≤ d ∧ d ≤ monthLen (leap ρ y) m
  · simp [h]
  · rw [if_neg h]
    have : (decide (1 ≤ d) && decide (d ≤ monthLen (leap ρ y) m)) = false := by
      simp only [Bool.and_eq_false_iff, decide_eq_false_iff_not]; omega
    simp [this]

/-- **C02 / C07 for proleptic calendars:** `at_ymd` accepts exactly the valid dates whose
day number fits, and says why otherwise. -/
theorem ruleCal_atYmd (ρ : Rule) (y : Int) (m : Month) (d : Int) :
    (ruleCal ρ).atYmd y m d =
      if 1 ≤ d ∧ d ≤ monthLen (leap ρ y) m then
        (if InI32 (jdnOf ρ y m d)
          then .ok ⟨ruleCal ρ, y, daysBefore (leap ρ y) m + d, m, d, d, jdnOf ρ y m d⟩
          else .error .arithmetic)
      else .error (.dayOutOfRange y m d 1 (monthLen (leap ρ y) m)) := by
  simp only [Calendar.atYmd, ruleCal_getDayOrdinal]
  by_cases h : 1 ≤ d ∧ d ≤ monthLen (leap ρ y) m
  · rw [if_pos h, if_pos h]
    simp only [(ruleCal_whole ρ y).ymdo2ordinal]
    have hb := daysBefore_bounds (leap ρ y) m
    have ho2 : daysBefore (leap ρ y) m + d ≤ 366 := by omega
    rw [ruleCal_getJdn ρ y _ (by omega) ho2]
    have e : yearStart ρ y + (daysBefore (leap ρ y) m + d) - 1 = jdnOf ρ y m d := by
      simp only [jdnOf]; omega
    rw [e]
    by_cases hin : InI32 (jdnOf ρ y m d)
    · rw [if_pos hin, if_pos hin]
    · rw [if_neg hin, if_neg hin]
  · rw [if_neg h, if_neg h]

theorem ruleCal_atOrdinalDate (ρ : Rule) (y : Int) (o : Int) :
    (1 ≤ o ∧ o ≤ yearLen ρ y →
      ∃ m d, daysBefore (leap ρ y) m + d = o ∧ 1 ≤ d ∧ d ≤ monthLen (leap ρ y) m
        ∧ (ruleCal ρ).atOrdinalDate y o =
            if InI32 (yearStart ρ y + o - 1)
            then .ok ⟨ruleCal ρ, y, o, m, d, d, yearStart ρ y + o - 1⟩ else .error .arithmetic)
    ∧ (¬(1 ≤ o ∧ o ≤ yearLen ρ y) →
        (ruleCal ρ).atOrdinalDate y o = .error (.ordinalOutOfRange y o (yearLen ρ y))) := by
  constructor
  · intro ⟨h1, h2⟩
    obtain ⟨m, d, hl, hsum, hd1, hd2⟩ := ruleCal_ordinal2ymddo ρ y o h1 h2
    refine ⟨m, d, hsum, hd1, hd2, ?_⟩
    have h366 : o ≤ 366 := by simp only [yearLen] at h2; split at h2 <;> omega
    simp only [Calendar.atOrdinalDate, hl, ruleCal_getJdn ρ y o h1 h366]
    by_cases hin : InI32 (yearStart ρ y + o - 1)
    · rw [if_pos hin, if_pos hin]
    · rw [if_neg hin, if_neg hin]
  · intro h
    rw [Calendar.atOrdinalDate, Calendar.ordinal2ymddo_err (by rwa [ruleCal_yearLength]), ruleCal_yearLength]

end JV
