/-
Lemmas/Inverse.lean — `get_jdn` inverts the year / day-of-year computation of `at_jdn`.
-/
import JulianVerif.Lemmas.AtJdn
namespace JV
open Spec

namespace Reform
variable (rf : Reform)

theorem getJdn_raw (y o : Int) :
    rf.cal.getJdn y o =
      (if y < rf.yQ ∨ (y = rf.yQ
            ∧ (if y = rf.yQ ∧ o ≥ rf.oP' + 1 then o + rf.gapAmt else o) < rf.oP' + 1)
       then julian2jdn y (if y = rf.yQ ∧ o ≥ rf.oP' + 1 then o + rf.gapAmt else o)
       else gregorian2jdn y (if y = rf.yQ ∧ o ≥ rf.oP' + 1 then o + rf.gapAmt else o)) := by
  have hy := rf.postYear_eq
  simp only [Calendar.getJdn, cal_eq, Calendar.gap, postOrdinal_eq, hy, ordinalGap_eq, Bool.and_eq_true,
    Bool.or_eq_true, beq_iff_eq, decide_eq_true_eq]

/-- `get_jdn` counts from the start of the year: day-of-year `o` of year `y` is day
`origin y + o - 1`, when that fits.  The Julian days of the year come first (all of them, up to the
year of P; `oP'` of them in the year of Q); after them the removed ordinals are added back and the
day is counted in the Gregorian year, which the removed ordinals make start at `origin y`. -/
theorem getJdn_eq (y o : Int) (h1 : 1 ≤ o) (h2 : o ≤ rf.cal.yearLength y) :
    rf.cal.getJdn y o
      = if InI32 (rf.origin y + o - 1) then some (rf.origin y + o - 1) else none := by
  have hle := rf.yP_le_yQ
  have hP := rf.oP_spec; have hQ := rf.oQ_spec; have hq := rf.oQ_ge
  have := yearLen_bounds .julian y; have := yearLen_bounds .gregorian y
  have hg : rf.gapAmt = rf.oQ - rf.oP' - 1 := rfl
  have hp : rf.oP' = if rf.yP = rf.yQ then rf.oP else 0 := rfl
  rw [yearLength_cases] at h2
  rw [getJdn_raw]
  generalize ho' : (if y = rf.yQ ∧ o ≥ rf.oP' + 1 then o + rf.gapAmt else o) = o'
  -- `o'`, which the kernel is handed, is a day-of-year of the kernel's year; that year starts `o - o'` days after `origin y`
  have key : 1 ≤ o' ∧ o' ≤ 366
      ∧ (if y < rf.yQ ∨ (y = rf.yQ ∧ o' < rf.oP' + 1) then yearStart .julian y else yearStart .gregorian y)
          + o' - 1 = rf.origin y + o - 1 := by
    simp only [origin]; grind
  rw [julian2jdn_spec y o' key.1 key.2.1, gregorian2jdn_spec y o' key.1 key.2.1, ← key.2.2]
  split <;> rfl

end Reform

theorem ruleCal_getJdn_atJdn (ρ : Rule) (j : Int) (d : Date) (h : (ruleCal ρ).atJdn? j = some d) :
    (ruleCal ρ).getJdn d.year d.ordinal = if InI32 j then some j else none := by
  obtain ⟨y, m, dd, hat, hdate⟩ := ruleCal_atJdn ρ j
  rw [hat] at h; cases h
  obtain ⟨hjd, h1, h2⟩ := IsDate.doy hdate
  have := yearLen_bounds ρ y
  rw [ruleCal_getJdn ρ y _ h1 (by omega), ← hjd]

theorem Reform.getJdn_atJdn (rf : Reform) (j : Int) (d : Date) (h : rf.cal.atJdn? j = some d) :
    rf.cal.getJdn d.year d.ordinal = if InI32 j then some j else none := by
  obtain ⟨y, m, dd, _, hat⟩ := rf.atJdn_eq j
  rw [hat] at h; cases h
  obtain ⟨h1, h2⟩ := Calendar.ordinal2ymddo_ok_range (atJdn?_parts hat).2.2
  rw [rf.getJdn_eq _ _ h1 h2, show rf.origin y + (j - rf.origin y + 1) - 1 = j by omega]

end JV
