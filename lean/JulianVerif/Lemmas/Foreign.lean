/-
Lemmas/Foreign.lean — what the modelled constructors of chrono and time accept (Model/Foreign.lean), in
the specification's terms.
-/
import JulianVerif.Model.Foreign
import JulianVerif.Spec.Basic
namespace JV.Foreign
open Spec

theorem gregMonthLen_eq (y : Int) (m : Month) : gregMonthLen y m = monthLen (leap .gregorian y) m := by
  cases m <;> simp [gregMonthLen, monthLen, leap]

theorem validForeign_eq_some {lo hi y m d : Int} {mo : Month} :
    validForeign lo hi y m d = some mo
      ↔ Month.ofInt? m = some mo ∧ lo ≤ y ∧ y ≤ hi ∧ 1 ≤ d ∧ d ≤ monthLen (leap .gregorian y) mo := by
  simp only [validForeign]
  cases Month.ofInt? m with
  | none => exact ⟨nofun, fun h => nomatch h.1⟩
  | some mo' =>
    simp only [gregMonthLen_eq]
    by_cases hc : (decide (lo ≤ y) && decide (y ≤ hi) && decide (1 ≤ d)
        && decide (d ≤ monthLen (leap .gregorian y) mo')) = true
    · rw [if_pos hc]
      simp only [Bool.and_eq_true, decide_eq_true_eq] at hc
      exact ⟨fun h => Option.some.inj h ▸ ⟨rfl, hc.1.1.1, hc.1.1.2, hc.1.2, hc.2⟩, fun h => h.1⟩
    · rw [if_neg hc]
      simp only [Bool.and_eq_true, decide_eq_true_eq] at hc
      exact ⟨nofun, fun ⟨h, h1, h2, h3, h4⟩ => absurd ⟨⟨⟨h1, h2⟩, h3⟩, Option.some.inj h ▸ h4⟩ hc⟩

end JV.Foreign
