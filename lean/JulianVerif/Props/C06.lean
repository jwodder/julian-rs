/-
C06 — Every date the API hands out is the calendar's canonical date for its JDN.

`Produced d` is the inductive set of dates obtainable by any finite sequence of the
date-producing operations of the public API, starting from calendars a caller can hold
(`WF`: proleptic, or returned by `Calendar::reforming`) and arguments of the parameter
types.  `produced_canon` is an induction over that history.
-/
import JulianVerif.Lemmas.ShapedInst
import JulianVerif.Lemmas.Grammar
import JulianVerif.Lemmas.Time
import JulianVerif.Model.Text
import JulianVerif.Model.Time
import JulianVerif.Lemmas.Foreign
namespace JV.C06

/-- a date is canonical: its calendar is well-formed, its day number is a 32-bit value, and
it is field-for-field what its own calendar says about that day number -/
def Canon (d : Date) : Prop :=
  WF d.calendar ∧ InI32 d.jdn ∧ d.calendar.atJdn? d.jdn = some d

/-- every way the public API produces a `Date` -/
inductive Produced : Date → Prop
  | atJdn (c : Calendar) (hc : WF c) (j : Int) (hj : InI32 j) (d : Date)
      (h : c.atJdn? j = some d) : Produced d
  | atYmd (c : Calendar) (hc : WF c) (y : Int) (hy : InI32 y) (m : Month) (dd : Int) (hd : InU32 dd)
      (d : Date) (h : c.atYmd y m dd = .ok d) : Produced d
  | atOrdinalDate (c : Calendar) (hc : WF c) (y : Int) (hy : InI32 y) (o : Int) (ho : InU32 o)
      (d : Date) (h : c.atOrdinalDate y o = .ok d) : Produced d
  | parseDate (c : Calendar) (hc : WF c) (s : List Char) (d : Date)
      (h : c.parseDate s = .ok d) : Produced d
  | atUnixTime (c : Calendar) (hc : WF c) (t : Int) (d : Date) (secs : Int)
      (h : c.atUnixTime? t = some (some (d, secs))) : Produced d
  | atSystemTime (c : Calendar) (hc : WF c) (before : Bool) (s n : Int) (d : Date) (secs : Int)
      (h : c.atSystemTime? before s n = some (some (d, secs))) : Produced d
  | lastJulian (c : Calendar) (hc : WF c) (d : Date) (h : c.lastJulianDate = some d) : Produced d
  | firstGregorian (c : Calendar) (hc : WF c) (d : Date) (h : c.firstGregorianDate = some d) : Produced d
  | nthDate (c : Calendar) (hc : WF c) (y : Int) (hy : InI32 y) (m : Month) (s : MonthShape)
      (hs : c.monthShape y m = some s) (n : Int) (hn : InU32 n) (d : Date)
      (h : s.nthDate n = some d) : Produced d
  | convertTo (d₀ : Date) (h₀ : Produced d₀) (c : Calendar) (hc : WF c) (d : Date)
      (h : d₀.convertTo? c = some d) : Produced d
  | succ (d₀ : Date) (h₀ : Produced d₀) (d : Date) (h : d₀.succ = some d) : Produced d
  | pred (d₀ : Date) (h₀ : Produced d₀) (d : Date) (h : d₀.pred = some d) : Produced d
  | fromChrono (y m dd : Int) (d : Date) (h : Foreign.fromChrono y m dd = .ok d) : Produced d
  | fromTime (y m dd : Int) (d : Date) (h : Foreign.fromTime y m dd = .ok d) : Produced d

theorem canon_of_atJdn (c : Calendar) (hc : WF c) (j : Int) (hj : InI32 j) (d : Date)
    (h : c.atJdn? j = some d) : Canon d := by
  obtain ⟨hcal, hjd, _⟩ := atJdn?_parts h
  refine ⟨by rw [hcal]; exact hc, by rw [hjd]; exact hj, ?_⟩
  rw [hcal, hjd]; exact h

theorem canon_of_atYmd (c : Calendar) (hc : WF c) (y : Int) (hy : InI32 y) (m : Month) (dd : Int)
    (hd : 0 ≤ dd) (d : Date) (h : c.atYmd y m dd = .ok d) : Canon d := by
  obtain ⟨A⟩ := hc.accepting
  obtain ⟨h1, h2, _⟩ := A.atYmd_canon y hy m dd hd d h
  exact canon_of_atJdn c hc d.jdn h2 d h1

theorem canon_of_atOrdinalDate (c : Calendar) (hc : WF c) (y : Int) (hy : InI32 y) (o : Int)
    (d : Date) (h : c.atOrdinalDate y o = .ok d) : Canon d := by
  obtain ⟨A⟩ := hc.accepting
  obtain ⟨h1, h2, _⟩ := A.atOrdinalDate_canon y o hy d h
  exact canon_of_atJdn c hc d.jdn h2 d h1

theorem canon_of_parseDate (c : Calendar) (hc : WF c) (s : List Char) (d : Date)
    (h : c.parseDate s = .ok d) : Canon d := by
  obtain ⟨sg, Y, _, hy, ⟨O, _, _, h⟩ | ⟨M, D, month, _, _, _, _, h⟩⟩ := parseDate_ok_shape c s d h
  · exact canon_of_atOrdinalDate c hc _ hy _ d h
  · exact canon_of_atYmd c hc _ hy month _ (Int.natCast_nonneg _) d h

/-- both `From<chrono::NaiveDate>` and `From<time::Date>`: the year range of either crate
lies within `i32` -/
theorem canon_of_fromForeign {lo hi : Int} (hlo : -2147483648 ≤ lo) (hhi : hi ≤ 2147483647) {y m dd : Int}
    {d : Date} (h : Foreign.fromForeign lo hi y m dd = .ok d) : Canon d := by
  simp only [Foreign.fromForeign] at h
  cases hv : Foreign.validForeign lo hi y m dd with
  | none => rw [hv] at h; cases h
  | some mo =>
    obtain ⟨_, h1, h2, h3, _⟩ := Foreign.validForeign_eq_some.mp hv
    rw [hv] at h
    cases hdt : Calendar.gregorian.atYmd y mo dd with
    | error e => simp only [hdt] at h; cases h
    | ok dt =>
      simp only [hdt] at h; cases h
      exact canon_of_atYmd .gregorian WF.gregorian y (by omega) _ dd (by omega) _ hdt

/-- **whatever sequence of public operations produced it, a date is field-for-field the
one obtained by asking its own calendar for its Julian day number** -/
theorem produced_canon {d : Date} (h : Produced d) : Canon d := by
  induction h with
  | atJdn c hc j hj d h => exact canon_of_atJdn c hc j hj d h
  | atYmd c hc y hy m dd hd d h => exact canon_of_atYmd c hc y hy m dd hd.1 d h
  | atOrdinalDate c hc y hy o _ d h => exact canon_of_atOrdinalDate c hc y hy o d h
  | parseDate c hc s d h => exact canon_of_parseDate c hc s d h
  | atUnixTime c hc t d secs h =>
    revert h
    fun_cases Calendar.atUnixTime? c t with
    | case2 j s hu d' ha => rintro ⟨⟩; exact canon_of_atJdn c hc j (unix2jdn_eq_some hu).2.2 _ ha
    | _ => nofun
  | atSystemTime c hc before s n d secs h =>
    revert h
    fun_cases Calendar.atSystemTime? c before s n with
    | case2 j s' hu d' ha => rintro ⟨⟩; exact canon_of_atJdn c hc j (system2jdn_inI32 hu) _ ha
    | _ => nofun
  | lastJulian c hc d h =>
    rcases hc.cases with rfl | rfl | ⟨rf, rfl, hR⟩
    · cases h
    · cases h
    · rw [rf.lastJulianDate_eq] at h
      -- R - 1 is a 32-bit day number because `reforming` rejects R = i32::MIN
      exact canon_of_atJdn _ hc _ hR.2 d h
  | firstGregorian c hc d h =>
    rcases hc.cases with rfl | rfl | ⟨rf, rfl, hR⟩
    · cases h
    · cases h
    · rw [rf.firstGregorianDate_eq] at h
      exact canon_of_atJdn _ hc _ hR.1 d h
  | nthDate c hc y hy m s hs n hn d h =>
    simp only [Calendar.monthShape, Option.map_eq_some_iff] at hs
    obtain ⟨si, hi, rfl⟩ := hs
    obtain ⟨A⟩ := hc.accepting
    obtain ⟨h1, h2, _⟩ := A.nthDate_canon y hy m si hi n hn.1 d h
    exact canon_of_atJdn c hc _ h2 d h1
  | convertTo d₀ _ c hc d h ih => exact canon_of_atJdn c hc d₀.jdn ih.2.1 d h
  | succ d₀ _ d h ih =>
    obtain ⟨hc, hj, hat⟩ := ih
    obtain ⟨T⟩ := hc.tiling
    rw [T.succ_spec d₀.jdn hj d₀ hat] at h
    split at h
    · cases h
    · exact canon_of_atJdn d₀.calendar hc (d₀.jdn + 1) (by omega) d h
  | pred d₀ _ d h ih =>
    obtain ⟨hc, hj, hat⟩ := ih
    obtain ⟨T⟩ := hc.tiling
    rw [T.pred_spec d₀.jdn hj d₀ hat] at h
    split at h
    · cases h
    · exact canon_of_atJdn d₀.calendar hc (d₀.jdn - 1) (by omega) d h
  | fromChrono y m dd d h => exact canon_of_fromForeign (by decide) (by decide) h
  | fromTime y m dd d h => exact canon_of_fromForeign (by decide) (by decide) h

/-- consequently two produced dates of one calendar are equal exactly when their day
numbers are equal -/
theorem eq_iff_jdn {d₁ d₂ : Date} (h₁ : Produced d₁) (h₂ : Produced d₂)
    (hc : d₁.calendar = d₂.calendar) : d₁ = d₂ ↔ d₁.jdn = d₂.jdn := by
  constructor
  · intro h; rw [h]
  · intro hj
    have c1 := (produced_canon h₁).2.2
    have c2 := (produced_canon h₂).2.2
    rw [hc, hj] at c1
    rw [c1] at c2
    exact Option.some.inj c2

end JV.C06
