/-
C16 — chrono / time interoperability is exact in range and fails cleanly outside.

Partial by nature (DESIGN.md §12): the foreign crates are modelled, not verified.  A foreign
date is a valid proleptic-Gregorian (y, m, d) with the year inside the crate's range, and
`from_ymd_opt` / `from_calendar_date` accept exactly those; the crates' own day counts are
Rata Die.  The correspondence check tests these assumptions against the real crates.
-/
import JulianVerif.Lemmas.Foreign
import JulianVerif.Lemmas.Proleptic
namespace JV.C16
open Spec Foreign

/-- the library's Gregorian day number is Rata Die + 1721425 (`RATA_DIE_ZERO_JDN`), with
RD = 365(y-1) + ⌊(y-1)/4⌋ - ⌊(y-1)/100⌋ + ⌊(y-1)/400⌋ + day-of-year -/
theorem rata_die (y : Int) (m : Month) (d : Int) :
    jdnOf .gregorian y m d
      = (365 * (y - 1) + (y - 1) / 4 - (y - 1) / 100 + (y - 1) / 400
          + (daysBefore (leap .gregorian y) m + d)) + 1721425 := by
  simp only [jdnOf, yearStart]; omega

/-- **foreign → library never panics** and gives the proleptic-Gregorian date with the same
year, month and day, whose day number is the specification's (= RD + 1721425), for every
foreign year range inside ±5 800 000 (chrono: ±262143, time: ±9999) -/
theorem from_foreign_total (lo hi : Int) (hlo : -5800000 ≤ lo) (hhi : hi ≤ 5800000) (y m d : Int) :
    (∀ mo, validForeign lo hi y m d = some mo →
        fromForeign lo hi y m d
          = .ok ⟨.gregorian, y, daysBefore (leap .gregorian y) mo + d, mo, d, d, jdnOf .gregorian y mo d⟩)
    ∧ (validForeign lo hi y m d = none → fromForeign lo hi y m d = .invalid) := by
  refine ⟨fun mo hv => ?_, fun hv => by simp only [fromForeign, hv]⟩
  obtain ⟨_, hy1, hy2, hd⟩ := validForeign_eq_some.mp hv
  have h := ruleCal_atYmd .gregorian y mo d
  simp only [ruleCal] at h
  have hb := daysBefore_bounds (leap .gregorian y) mo
  have hin : InI32 (jdnOf .gregorian y mo d) := by
    have : (if leap .gregorian y = true then (366 : Int) else 365) ≤ 366 := by split <;> omega
    simp only [jdnOf, yearStart]; omega
  simp only [fromForeign, hv, h, if_pos hd, if_pos hin]

/-- **library → foreign never panics**: a date of any calendar converts to the foreign date
of the same day when its proleptic-Gregorian year is in the foreign range, and to a
conversion error otherwise.  For a date that is already New Style this is said of a date that
carries the Gregorian label of its day number, as every date the library hands out does (C01
`atJdn_total`, C02 `label_unique`); a `Date` record with other fields is outside the statement -/
theorem to_foreign_total (lo hi : Int) (u8 : Bool) (d : Date) :
    ∃ y m dd, IsDate .gregorian d.jdn y m dd ∧
      ((d.isGregorian = false ∨ (d.isGregorian = true ∧ d.year = y ∧ d.month = m ∧ d.day = dd)) →
        toForeign lo hi u8 d
          = if lo ≤ y ∧ y ≤ hi then .ok y m.number dd else .err) := by
  obtain ⟨y, m, dd, hat, hd⟩ := ruleCal_atJdn .gregorian d.jdn
  refine ⟨y, m, dd, hd, ?_⟩
  intro hcase
  have hl := monthLen_bounds (leap .gregorian y) m
  have hmo := Month.ofInt?_number m
  -- both branches of `toForeign` end in the same step, on a date with the Gregorian label of the
  -- day: the converted date, or the date itself if it is New Style already
  have key : ∀ g : Date, g.year = y → g.month = m → g.day = dd →
      (if (u8 && decide (g.day > 255)) = true then ToRes.panic
        else match validForeign lo hi g.year g.month.number g.day with
          | some _ => ToRes.ok g.year g.month.number g.day
          | none => ToRes.err)
      = if lo ≤ y ∧ y ≤ hi then .ok y m.number dd else .err := by
    intro g h1 h2 h3
    rw [h1, h2, h3]
    have : (u8 && decide (dd > 255)) = false := by
      have := hd.1.2
      simp; intro _; omega
    rw [this]
    simp only [Bool.false_eq_true, if_false]
    by_cases hr : lo ≤ y ∧ y ≤ hi
    · rw [validForeign_eq_some.mpr ⟨hmo, hr.1, hr.2, hd.1⟩, if_pos hr]
    · rw [if_neg hr]
      cases hv : validForeign lo hi y m.number dd with
      | none => rfl
      | some mo => exact absurd ⟨(validForeign_eq_some.mp hv).2.1, (validForeign_eq_some.mp hv).2.2.1⟩ hr
  rcases hcase with hng | ⟨hg, h1, h2, h3⟩
  · simp only [toForeign, hng, Bool.not_false, if_true, Date.convertTo?]
    simp only [ruleCal] at hat
    rw [hat]
    exact key _ rfl rfl rfl
  · simp only [toForeign, hg, Bool.not_true, Bool.false_eq_true, if_false]
    exact key d h1 h2 h3

/-- the numbering of months and of weekdays is one-to-one (onto 1..=12 and 1..=7: C15
`month_number_range`, `weekday_number_range`).  The `From` impls between `Month` / `Weekday` and
the enums of chrono and time are not modelled -/
theorem enum_bijective :
    (∀ m m' : Month, m.number = m'.number → m = m')
    ∧ (∀ w w' : Weekday, w.number = w'.number → w = w') :=
  ⟨Month.number_inj, Weekday.number_inj⟩

example : fromChrono 2023 4 20 = .ok ⟨.gregorian, 2023, 110, .april, 20, 20, 2460055⟩ := by rfl

end JV.C16
