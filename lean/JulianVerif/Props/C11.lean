/-
C11 — Chronological order, label order and comparison operators all agree.
-/
import JulianVerif.Lemmas.ShapedInst
import JulianVerif.Lemmas.Counts
import JulianVerif.Lemmas.CalOrder
import JulianVerif.Lemmas.GenLib
namespace JV.C11
open Spec

/-- order axioms for calendars: reflexive, antisymmetric, transitive, total -/
theorem cal_cmp_refl (a : Calendar) : a.cmp a = .eq := (cal_cmp_eq a a).mpr rfl

theorem cal_cmp_antisymm (a b : Calendar) : a.cmp b = .lt ↔ b.cmp a = .gt := by
  rw [cal_cmp_lt, cal_cmp_gt]

theorem cal_cmp_trans (a b c : Calendar) (h1 : a.cmp b = .lt) (h2 : b.cmp c = .lt) : a.cmp c = .lt := by
  rw [cal_cmp_lt] at *
  simp only [keyLt] at *
  omega

theorem cal_cmp_total (a b : Calendar) :
    a.cmp b = .lt ∨ a.cmp b = .eq ∨ a.cmp b = .gt := by
  cases h : a.cmp b <;> simp

/-- Julian is below every reforming calendar, Gregorian above all, reforming ones by day -/
theorem cal_order (r r' : Int) (g g' : ReformGap) :
    Calendar.julian.cmp (.reforming r g) = .lt ∧ (Calendar.reforming r g).cmp .gregorian = .lt
    ∧ Calendar.julian.cmp .gregorian = .lt
    ∧ ((Calendar.reforming r g).cmp (.reforming r' g') = .lt ↔ r < r') := by
  refine ⟨rfl, rfl, rfl, ?_⟩
  simp [Calendar.cmp, Int.compare_eq_lt]

/-- `==`, `cmp` and `Hash` of calendars are mutually consistent -/
theorem cal_eq_cmp_hash (a b : Calendar) :
    (a.beq b = true ↔ a.cmp b = .eq) ∧ (a.cmp b = .eq ↔ a.hashKey = b.hashKey) := by
  refine ⟨by simp [Calendar.beq], ?_⟩
  cases a <;> cases b <;> simp [Calendar.cmp, Calendar.hashKey]

/-- calendars that compare Equal have the same tag and the same reformation day -/
theorem cal_eq_observable (a b : Calendar) (h : a.cmp b = .eq) :
    a.reformation = b.reformation ∧ a.isReforming = b.isReforming ∧ a.isProleptic = b.isProleptic := by
  cases a <;> cases b <;> simp [Calendar.cmp] at h <;>
    simp [Calendar.reformation, Calendar.isReforming, Calendar.isProleptic, h]

/-- dates compare by day number, then by calendar -/
theorem date_cmp_lex (a b : Date) :
    a.cmp b = if a.jdn < b.jdn then .lt else if a.jdn = b.jdn then a.calendar.cmp b.calendar else .gt := by
  simp only [Date.cmp, compare, compareOfLessAndEq]
  by_cases h : a.jdn < b.jdn
  · simp [h]
  · by_cases h2 : a.jdn = b.jdn <;> simp [h, h2]

/-- for dates, `==` implies `cmp = Equal` and an identical hash input -/
theorem date_eq_implies (a b : Date) (h : a.beq b = true) :
    a.cmp b = .eq ∧ a.hashKey = b.hashKey := by
  simp only [Date.beq, Bool.and_eq_true, beq_iff_eq] at h
  obtain ⟨⟨⟨⟨⟨⟨hc, hy⟩, ho⟩, hm⟩, hd⟩, hdo⟩, hj⟩ := h
  have hc' := ((cal_eq_cmp_hash a.calendar b.calendar).1).mp hc
  refine ⟨?_, ?_⟩
  · rw [date_cmp_lex]; simp [hj, hc']
  · simp only [Date.hashKey, ((cal_eq_cmp_hash a.calendar b.calendar).2).mp hc', hy, ho, hm, hd, hdo, hj]

/-- **within any calendar, year/month/day labels and year/day-of-year pairs increase
strictly with the Julian day number** — across month ends, year ends and the reformation -/
theorem label_strict_mono (c : Calendar) (hc : WF c) (j j' : Int) (hlt : j < j') (d d' : Date)
    (h : c.atJdn? j = some d) (h' : c.atJdn? j' = some d') :
    (d.year < d'.year ∨ (d.year = d'.year ∧ (d.month.number < d'.month.number
        ∨ (d.month = d'.month ∧ d.day < d'.day))))
    ∧ (d.year < d'.year ∨ (d.year = d'.year ∧ d.ordinal < d'.ordinal)) := by
  obtain ⟨A⟩ := hc.accepting
  exact ⟨A.label_mono j j' hlt d d' h h', A.year_ordinal_mono j j' hlt d d' h h'⟩

theorem mkReforming_reformation {R r : Int} {g : ReformGap}
    (h : Calendar.mkReforming R = .ok (.reforming r g)) : r = R := by
  obtain ⟨rf, e, rfl, _⟩ := mk_reform h
  injection e

/-- for calendars a caller can hold, comparing Equal means being the same value — the gap
record is a function of the reformation day -/
theorem cal_eq_of_cmp (c₁ c₂ : Calendar) (h₁ : WF c₁) (h₂ : WF c₂) (h : c₁.cmp c₂ = .eq) : c₁ = c₂ := by
  have hk := (cal_cmp_eq c₁ c₂).mp h
  -- different tags have different keys, and the proleptic calendars are single values
  cases c₁ <;> cases c₂ <;> simp only [calKey, Prod.mk.injEq] at hk
  any_goals rfl
  any_goals omega
  -- both reforming, on the same day: `reforming` computed both from that day
  obtain ⟨_, rfl⟩ := hk
  rcases h₁ with h | h | ⟨R₁, _, e₁⟩ <;> try cases h
  rcases h₂ with h | h | ⟨R₂, _, e₂⟩ <;> try cases h
  rw [← mkReforming_reformation e₁] at e₁
  rw [← mkReforming_reformation e₂, e₁] at e₂
  injection e₂

/-- **for dates the API hands out (canonical dates, C06), equality, ordering and hashing are
mutually consistent**: they compare Equal exactly when they are the same value, and then
they are `==` and hash identically -/
theorem date_cmp_eq_iff (d₁ d₂ : Date) (w₁ : WF d₁.calendar) (w₂ : WF d₂.calendar)
    (c₁ : d₁.calendar.atJdn? d₁.jdn = some d₁) (c₂ : d₂.calendar.atJdn? d₂.jdn = some d₂) :
    (d₁.cmp d₂ = .eq ↔ d₁ = d₂)
    ∧ (d₁.cmp d₂ = .eq → d₁.beq d₂ = true ∧ d₁.hashKey = d₂.hashKey) := by
  have key : d₁.cmp d₂ = .eq → d₁ = d₂ := by
    intro h
    rw [date_cmp_lex] at h
    by_cases a : d₁.jdn < d₂.jdn
    · simp [a] at h
    · by_cases b : d₁.jdn = d₂.jdn
      · rw [if_neg a, if_pos b] at h
        have hc := cal_eq_of_cmp _ _ w₁ w₂ h
        rw [hc, b] at c₁
        rw [c₁] at c₂
        exact Option.some.inj c₂
      · simp [a, b] at h
  refine ⟨⟨key, ?_⟩, ?_⟩
  · intro e; subst e
    rw [date_cmp_lex]; simp [cal_cmp_refl]
  · intro h
    have e := key h
    subst e
    refine ⟨?_, rfl⟩
    simp [Date.beq, Calendar.beq, cal_cmp_refl]

/-- **label order = chronological order** in the proleptic calendars: year/month/day labels
increase strictly with the day number -/
theorem label_strict_mono_proleptic (ρ : Rule) (j j' : Int) (h : j < j')
    {y y' : Int} {m m' : Month} {d d' : Int}
    (h1 : IsDate ρ j y m d) (h2 : IsDate ρ j' y' m' d') :
    y < y' ∨ (y = y' ∧ (m.number < m'.number ∨ (m = m' ∧ d < d'))) := by
  rcases (jdnOf_lt_iff h1.1 h2.1).mp (by rw [h1.2, h2.2]; exact h) with a | ⟨a, b | ⟨b, c⟩⟩
  · exact Or.inl a
  · exact Or.inr ⟨a, Or.inl b⟩
  · exact Or.inr ⟨a, Or.inr ⟨Month.number_inj m m' b, c⟩⟩

/-! ### the comparison impls as GENERATED from the source

`Gen.calendarCmp`, `Gen.calendarEq`, `Gen.dateCmp` … are produced by bin/libgen from
`impl Ord / PartialEq / PartialOrd for inner::Calendar` and `impl Ord / PartialOrd for Date`; they are
the model's `Calendar.cmp`, `Calendar.beq`, `Date.cmp`, which the theorems above are about. -/

theorem generated_comparisons :
    (∀ a b : Calendar, Gen.calendarCmp a b = a.cmp b ∧ Gen.calendarEq a b = a.beq b
      ∧ Gen.calendarPartialCmp a b = some (a.cmp b))
    ∧ (∀ a b : Date, Gen.dateCmp a b = a.cmp b ∧ Gen.datePartialCmp a b = some (a.cmp b)) :=
  ⟨fun a b => ⟨Gen.calendarCmp_eq a b, Gen.calendarEq_eq a b, Gen.calendarPartialCmp_eq a b⟩,
   fun a b => ⟨Gen.dateCmp_eq a b, Gen.datePartialCmp_eq a b⟩⟩

end JV.C11
