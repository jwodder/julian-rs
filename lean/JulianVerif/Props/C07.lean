/-
C07 — Date construction accepts exactly the dates that exist, with the right error.

"The date (y, m, d) exists in calendar c" means: some day number `j` has that label, i.e.
`c.atJdn? j = some date` with that year, month and day — and `at_jdn` is the
specification's labelling (C02, C03).  `WF c`: proleptic, or returned by
`Calendar::reforming`.
-/
import JulianVerif.Lemmas.ShapedInst
namespace JV.C07
open Spec

/-- **an existing date is constructed exactly when its day number fits in 32 bits, and is
then the canonical date of that day; beyond the day-number range it is an arithmetic
error** -/
theorem atYmd_existing (c : Calendar) (hc : WF c) (j : Int) (d : Date) (h : c.atJdn? j = some d)
    (hy : InI32 d.year) :
    c.atYmd d.year d.month d.day = (if InI32 j then .ok d else .error .arithmetic)
    ∧ c.atOrdinalDate d.year d.ordinal = (if InI32 j then .ok d else .error .arithmetic) := by
  obtain ⟨A⟩ := hc.accepting
  exact A.existing h hy

/-- **construction succeeds only for dates that exist**: a returned date is the canonical
date of its (32-bit) day number and carries the requested label -/
theorem atYmd_sound (c : Calendar) (hc : WF c) (y : Int) (hy : InI32 y) (m : Month) (dd : Int)
    (hd : InU32 dd) (d : Date) (h : c.atYmd y m dd = .ok d) :
    c.atJdn? d.jdn = some d ∧ InI32 d.jdn ∧ d.year = y ∧ d.month = m ∧ d.day = dd := by
  obtain ⟨A⟩ := hc.accepting
  exact A.atYmd_canon y hy m dd hd.1 d h

/-- **a request into a month removed entirely is reported as skipped** -/
theorem atYmd_month_removed (c : Calendar) (y : Int) (m : Month) (dd : Int)
    (h : c.monthIShape y m = none) : c.atYmd y m dd = .error (.skippedDate y m dd) := by
  simp only [Calendar.atYmd, Calendar.getDayOrdinal, h]

/-- **a day that does not exist in a month that still has days**: if the month would
naturally have it (1 ≤ d ≤ natural length) it is reported as skipped — this takes
precedence — otherwise as out of range, together with the first and last days that do
exist -/
theorem atYmd_missing (c : Calendar) (hc : WF c) (y : Int) (m : Month) (dd : Int) (hd : InU32 dd)
    (s : IShape) (hs : c.monthIShape y m = some s) (hno : s.contains dd = false) :
    c.atYmd y m dd =
      if 1 ≤ dd ∧ dd ≤ s.naturalMax then .error (.skippedDate y m dd)
      else .error (.dayOutOfRange y m dd s.firstDay s.lastDay) := by
  obtain ⟨S⟩ := hc.shaped
  obtain ⟨_, h2, h3⟩ := s.dayOrdinalErr_classify (S.proper y m s hs) y m dd hd.1
  simp only [Calendar.atYmd, Calendar.getDayOrdinal, hs]
  by_cases hn : 1 ≤ dd ∧ dd ≤ s.naturalMax
  · rw [if_pos hn, h2 hno hn.1 hn.2]
  · rw [if_neg hn, h3 hno hn]

/-- the shape's membership test is existence of the date, and its first / last day are the
first / last existing days of the month -/
theorem shape_is_existence (c : Calendar) (hc : WF c) (y : Int) (m : Month) (dd : Int) (hd : InU32 dd) :
    (∃ j d, c.atJdn? j = some d ∧ d.year = y ∧ d.month = m ∧ d.day = dd)
      ↔ (∃ s, c.monthIShape y m = some s ∧ s.contains dd = true) := by
  obtain ⟨S⟩ := hc.shaped
  -- `hd` is not needed: `contains` and `nth_day` agree on every integer
  exact S.month_days y m dd

/-- in a reforming calendar the natural span of a month is the ordinary month table under
the rule in force at the end of that month: Julian if the month precedes the month of the
first Gregorian date, Gregorian otherwise -/
theorem natural_span (R : Int) (hR : InI32 R) (c : Calendar) (hc : Calendar.mkReforming R = .ok c)
    (y : Int) (m : Month) (s : IShape) (hs : c.monthIShape y m = some s) :
    ∃ rf : Reform, c = rf.cal ∧ s.naturalMax = monthLen (rf.natLp y m) m := by
  -- `hR` is not needed: a successful `Calendar::reforming` says all there is to know about `R`
  obtain ⟨rf, rfl, _, _⟩ := mk_reform hc
  exact ⟨rf, rfl, (rf.shape_proper y m s hs).2⟩

/-- **an ordinal beyond the year is reported with the year's true length** (which is the
number of dates of the year, C08); within the year construction succeeds or overflows -/
theorem atOrdinalDate_range (c : Calendar) (y o : Int) :
    (¬ (1 ≤ o ∧ o ≤ c.yearLength y) →
        c.atOrdinalDate y o = .error (.ordinalOutOfRange y o (c.yearLength y))) := by
  intro h
  simp only [Calendar.atOrdinalDate, Calendar.ordinal2ymddo_err h]

/-- within the year, the result is the canonical date or an arithmetic error, never another
error and never a fault -/
theorem atOrdinalDate_within (c : Calendar) (hc : WF c) (y : Int) (hy : InI32 y) (o : Int)
    (h1 : 1 ≤ o) (h2 : o ≤ c.yearLength y) :
    (∃ d, c.atOrdinalDate y o = .ok d ∧ c.atJdn? d.jdn = some d ∧ d.year = y ∧ d.ordinal = o)
    ∨ c.atOrdinalDate y o = .error .arithmetic := by
  obtain ⟨A⟩ := hc.accepting
  obtain ⟨m, dd, k, _, hd⟩ := A.atJdn_at (A.live_of_len y (by omega)) h1 h2
  have := (A.existing hd hy).2
  split at this
  · exact Or.inl ⟨_, this, hd, rfl, rfl⟩
  · exact Or.inr this

/-- the example that used to be misclassified (defect D3): February 29, 1701 in the calendar
reforming on day 2342397 does not exist and lies outside February's natural span -/
example : ∃ c, Calendar.mkReforming 2342397 = .ok c
    ∧ c.atYmd 1701 .february 29 = .error (.dayOutOfRange 1701 .february 29 1 17) := ⟨_, rfl, rfl⟩

end JV.C07
