/-
C08 — Year length and year kind describe the actual set of days in the year.
-/
import JulianVerif.Lemmas.Counts
import JulianVerif.Lemmas.ShapedInst
import JulianVerif.Lemmas.YearKindSpec
namespace JV.C08
open Spec

/-- **the reported year length equals the number of dates of the calendar that fall in the
year**: the days whose date lies in year `y` form one block of exactly `year_length y`
consecutive day numbers — or there are none and the length is 0 -/
theorem yearLength_counts (c : Calendar) (hc : WF c) (y : Int) :
    (c.yearLength y = 0 ∧ ∀ j d, c.atJdn? j = some d → d.year ≠ y)
    ∨ (0 < c.yearLength y ∧ ∃ a, ∀ j d, c.atJdn? j = some d →
          (d.year = y ↔ (a ≤ j ∧ j < a + c.yearLength y))) := by
  obtain ⟨A⟩ := hc.accepting
  by_cases hl : A.Live y
  · exact Or.inr ⟨A.pos y hl, A.F y, fun j d h => A.year_block y hl j d h⟩
  · exact Or.inl (A.year_dead y hl)

/-- **the year length equals the sum of the lengths of its months** (the lemma defect D1
violated) -/
theorem yearLength_sum (c : Calendar) (hc : WF c) (y : Int) :
    c.yearLength y = c.sumAll y Month.all := by
  obtain ⟨A⟩ := hc.accepting
  exact A.lenSum y

/-- the year kind of the proleptic calendars -/
theorem yearKind_proleptic (ρ : Rule) (y : Int) :
    (ruleCal ρ).yearKind y = (if leap ρ y then .leap else .common) :=
  ruleCal_yearKind ρ y

/-- **the year kind is Skipped exactly when the year has no dates** -/
theorem skipped_iff (R : Int) (hR : InI32 R) (c : Calendar) (hc : Calendar.mkReforming R = .ok c)
    (y : Int) : c.yearKind y = .skipped ↔ c.yearLength y = 0 := by
  -- `hR` is not needed (`mk_reform`)
  obtain ⟨rf, rfl, _, _⟩ := mk_reform hc
  have hpos := rf.yearLength_pos_iff y
  have := rf.shaped.yearLength_nonneg y
  simp only [Reform.Live] at hpos
  rw [rf.yearKind_skipped_iff]
  omega

/-- **the year kind, against the days of the calendar.**  A year lying wholly before the
reformation (its Julian December 31 precedes R) is Common or Leap by the Julian rule and has
its full 365/366 days; a year lying wholly at or after it (its Gregorian January 1 is not
before R) is Common or Leap by the Gregorian rule with its full days; any other year is
Skipped if it has no days, and otherwise ReformLeap or ReformCommon according to whether
February 29 of that year is a date of the calendar (the clause defect D2 violated). -/
theorem yearKind_spec (R : Int) (hR : InI32 R) (c : Calendar) (hc : Calendar.mkReforming R = .ok c)
    (y : Int) :
    (jdnOf .julian y .december 31 < R →
        c.yearKind y = (if leap .julian y then .leap else .common)
        ∧ c.yearLength y = yearLen .julian y)
    ∧ (R ≤ jdnOf .gregorian y .january 1 →
        c.yearKind y = (if leap .gregorian y then .leap else .common)
        ∧ c.yearLength y = yearLen .gregorian y)
    ∧ (¬ jdnOf .julian y .december 31 < R → ¬ R ≤ jdnOf .gregorian y .january 1 →
        (c.yearLength y = 0 → c.yearKind y = .skipped)
        ∧ (c.yearLength y ≠ 0 → HasFeb29 c y → c.yearKind y = .reformLeap)
        ∧ (c.yearLength y ≠ 0 → ¬ HasFeb29 c y → c.yearKind y = .reformCommon)) := by
  obtain ⟨rf, rfl, rfl, _⟩ := mk_reform hc
  have hpos := rf.yearLength_pos_iff y
  have := rf.shaped.yearLength_nonneg y
  simp only [Reform.Live] at hpos
  -- with months as numbers, the three tests on days are the tests of `yearKind_eq`
  refine ⟨fun hJ => ?_, fun hG => ?_, fun hnJ hnG => ?_⟩
  · rw [rf.whollyJ_iff] at hJ
    exact ⟨by rw [rf.yearKind_eq, if_pos hJ], rf.yearLength_whole.1 hJ⟩
  · rw [rf.whollyG_iff] at hG
    exact ⟨by rw [rf.yearKind_eq, if_neg (rf.whollyG_not_whollyJ hG), if_pos hG], rf.yearLength_whole.2 hG⟩
  · rw [rf.whollyJ_iff] at hnJ
    rw [rf.whollyG_iff] at hnG
    rw [rf.hasFeb29_iff, rf.yearKind_eq, if_neg hnJ, if_neg hnG]
    clear hnJ hnG  -- `omega` would split on their disjunctions
    by_cases hb : rf.yP < y ∧ y < rf.yQ
    · have h0 : rf.cal.yearLength y = 0 := by omega
      rw [if_pos hb]; exact ⟨fun _ => rfl, fun h => absurd h0 h, fun h => absurd h0 h⟩
    · have h1 : rf.cal.yearLength y ≠ 0 := by omega
      rw [if_neg hb]
      exact ⟨fun h => absurd h h1, fun _ hf => if_pos hf, fun _ hf => if_neg hf⟩

/-- the reformation year of the built-in 1582 calendar has no February 29 and is
ReformCommon; a reformation on Julian 29 February 300 makes year 300 ReformLeap (defect D2) -/
theorem yearKind_examples :
    Calendar.reform1582.yearKind 1582 = .reformCommon
    ∧ (∀ c, Calendar.mkReforming 1830693 = .ok c → c.yearKind 300 = .reformLeap) := by
  refine ⟨rfl, ?_⟩
  intro c h
  have : Calendar.mkReforming 1830693 = .ok (Calendar.reforming 1830693
      (mkGap 300 .february 29 300 .march 2)) := rfl
  rw [this] at h; cases h; rfl

end JV.C08
