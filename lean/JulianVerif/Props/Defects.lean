/-
Props/Defects.lean — the defects D1–D6 and D8 of the pinned tree (DESIGN.md 0.4, section 9), each
as a kernel-checked statement about Model/Legacy.lean, which bin/libgen GENERATES from the pre-fix
revision of lib.rs (commit cd70602), next to the same call on Model/GenLib.lean, generated from the
repaired source.  `none` is a panic.  Nothing here is assumed: every statement is closed and decided
by evaluation in the kernel.

(D7, `system2jdn` before the epoch, lives in a function the translator does not read; it is pinned
by corpus witnesses only.)
-/
import JulianVerif.Model.Legacy
import JulianVerif.Model.GenLib
namespace JV.Defects

deriving instance DecidableEq for Except

/-- the calendar a successful `Calendar::reforming` returns (`.julian` otherwise) -/
def cal (x : Option (Except ReformingError Calendar)) : Calendar :=
  match x with
  | some (.ok c) => c
  | _ => .julian

/-- **D1** `year_length` of the first Gregorian year when it is a Gregorian leap year and the gap
swallows February 29: 355 instead of 356 for 1584 in `reforming(2299664)`, and `at_jdn` of that
year's last day panics.  Repaired: 356, and a date. -/
theorem D1 :
    Legacy.calendarYearLength (cal (Legacy.calendarReforming 2299664)) 1584 = some 355
    ∧ Legacy.calendarAtJdn (cal (Legacy.calendarReforming 2299664)) 2299969 = none
    ∧ Gen.calendarYearLength (cal (Gen.calendarReforming 2299664)) 1584 = some 356
    ∧ (Gen.calendarAtJdn (cal (Gen.calendarReforming 2299664)) 2299969).isSome = true := by
  decide +kernel

/-- **D2** `year_kind` when the last Julian date is February 29: `ReformCommon` although the
year has a February 29 (`reforming(1830693)`, year 300).  Repaired: `ReformLeap`. -/
theorem D2 :
    Legacy.calendarYearKind (cal (Legacy.calendarReforming 1830693)) 300 = some .reformCommon
    ∧ Gen.calendarYearKind (cal (Gen.calendarReforming 1830693)) 300 = some .reformLeap := by
  decide +kernel

/-- **D3** February of a reformation year given 29 days in a Julian *common* year: day 29 of
February 1701 in `reforming(2342397)` is reported as skipped.  Repaired: out of range, 1..17. -/
theorem D3 :
    Legacy.calendarAtYmd (cal (Legacy.calendarReforming 2342397)) 1701 .february 29
      = some (.error (.skippedDate 1701 .february 29))
    ∧ Gen.calendarAtYmd (cal (Gen.calendarReforming 2342397)) 1701 .february 29
      = some (.error (.dayOutOfRange 1701 .february 29 1 17)) := by
  decide +kernel

/-- **D4** `nth_day(u32::MAX)` on a gapped month overflows (October 1582).  Repaired: `None`. -/
theorem D4 :
    ((Legacy.calendarMonthShape Calendar.reform1582 1582 .october).bind fun s =>
        s.bind fun s => Legacy.monthShapeNthDay s 4294967295) = none
    ∧ ((Gen.calendarMonthShape Calendar.reform1582 1582 .october).bind fun s =>
        s.bind fun s => Gen.monthShapeNthDay s 4294967295) = some none := by
  decide +kernel

/-- **D5** `nth_date` reaches `unreachable!()` for a month beyond the day-number range
(Gregorian July 5874898).  Repaired: `None`. -/
theorem D5 :
    ((Legacy.calendarMonthShape .gregorian 5874898 .july).bind fun s =>
        s.bind fun s => Legacy.monthShapeNthDate s 1) = none
    ∧ ((Gen.calendarMonthShape .gregorian 5874898 .july).bind fun s =>
        s.bind fun s => Gen.monthShapeNthDate s 1) = some none := by
  decide +kernel

/-- **D8** `Calendar::reforming` near `Jdnum::MIN`: `Arithmetic` where the documentation and C12
require `InvalidReformation`.  Repaired. -/
theorem D8 :
    Legacy.calendarReforming (-2147483647) = some (.error .arithmetic)
    ∧ Gen.calendarReforming (-2147483647) = some (.error .invalidReformation) := by
  decide +kernel

/-- **D6** `Display for Date` pads a negative year with `{:04}`, which counts the sign: year −1
prints as `-001-01-01`.  Repaired: `-0001-01-01`. -/
theorem D6 :
    Legacy.dateFmt ⟨.julian, -1, 1, .january, 1, 1, 1720693⟩ false = "-001-01-01".toList
    ∧ Gen.dateFmt ⟨.julian, -1, 1, .january, 1, 1, 1720693⟩ false = "-0001-01-01".toList := by
  decide +kernel

end JV.Defects
