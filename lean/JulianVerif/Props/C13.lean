/-
C13 — Dates survive a trip through text, and parsing accepts exactly the grammar.

`fmtDate` / `fmtDateAlt` are the model of `Display for Date` (after fix F6) over the model's
own decimal printer, `Calendar.parseDate` the model of `DateParser`; that Rust's formatter
and `str::parse` behave like the model's is the correspondence check's job (`fmt`, `parse`
requests).
-/
import JulianVerif.Lemmas.Bounded
import JulianVerif.Lemmas.Grammar
import JulianVerif.Lemmas.GenLib
import JulianVerif.Lemmas.GenText
import JulianVerif.Lemmas.GenScan
namespace JV.C13
open Spec

/-- the two display forms: year, '-', then month '-' day (two digits each) or the day of
year (three digits) -/
theorem fmt_shape (d : Date) :
    fmtDate d = fmtYear d.year ++ ['-'] ++ padNat 2 d.month.number.toNat ++ ['-'] ++ padNat 2 d.day.toNat
    ∧ fmtDateAlt d = fmtYear d.year ++ ['-'] ++ padNat 3 d.ordinal.toNat := ⟨rfl, rfl⟩

/-- years are shown with a leading minus exactly when negative, then the magnitude
zero-padded to at least four digits -/
theorem fmtYear_shape (y : Int) :
    fmtYear y = (if y < 0 then ['-'] else []) ++ padNat 4 y.natAbs := by
  simp only [fmtYear]; split <;> rfl

/-- zero padding: at least `w` characters, all of them ASCII digits, reading back as `n` -/
theorem padNat_shape (w n : Nat) :
    (padNat w n).length = max w (natDigits n).length
    ∧ (∀ c ∈ padNat w n, isAsciiDigit c = true) ∧ digitsVal (padNat w n) 0 = n := by
  refine ⟨?_, (padNat_allDigits w n).2, digitsVal_padNat w n⟩
  simp only [padNat, List.length_append, List.length_replicate]; omega

/-- year -1 is shown as -0001 (the documented rendering), year 5 as 0005, 12345 in full -/
theorem fmtYear_examples :
    fmtYear (-1) = "-0001".toList ∧ fmtYear 5 = "0005".toList ∧ fmtYear 12345 = "12345".toList
    ∧ fmtYear (-2147483648) = "-2147483648".toList ∧ fmtYear 0 = "0000".toList := by decide

/-- **parsing succeeds only on strings of the form `[sign]digits-digits[-digits]`**, and the
date returned is the one `at_ordinal_date` / `at_ymd` construct from those numbers (month
numbers 1–12 only) — for every string of characters whatsoever -/
theorem parse_accepts_only_grammar (c : Calendar) (s : List Char) (d : Date)
    (h : c.parseDate s = .ok d) :
    ∃ (sg : Sign) (Y : List Char), AllDigits Y ∧ InI32 (sg.apply (digitsVal Y 0)) ∧
      ((∃ O, AllDigits O ∧ s = sg.chars ++ Y ++ '-' :: O
          ∧ c.atOrdinalDate (sg.apply (digitsVal Y 0)) (digitsVal O 0) = .ok d)
       ∨ (∃ M D month, AllDigits M ∧ AllDigits D ∧ s = sg.chars ++ Y ++ '-' :: (M ++ '-' :: D)
          ∧ Month.ofInt? (digitsVal M 0) = some month
          ∧ c.atYmd (sg.apply (digitsVal Y 0)) month (digitsVal D 0) = .ok d)) :=
  parseDate_ok_shape c s d h

/-- **every string `[sign]digits-digits` gets the result, or the date error, of constructing
the date from (year, day of year)**; numbers that do not fit i32 / u32 are `ParseInt` errors -/
theorem parse_year_ordinal (c : Calendar) (sg : Sign) (Y O : List Char)
    (hY : AllDigits Y) (hO : AllDigits O) :
    c.parseDate (sg.chars ++ Y ++ '-' :: O) =
      if inI32 (sg.apply (digitsVal Y 0)) then
        if digitsVal O 0 ≤ 4294967295 then
          match c.atOrdinalDate (sg.apply (digitsVal Y 0)) (digitsVal O 0) with
          | .ok d => .ok d
          | .error e => .error (.invalidDate e)
        else .error .parseInt
      else .error .parseInt := by
  simp only [Calendar.parseDate, parseInt_append sg hY (noDigitHead_dash O)]
  by_cases hin : inI32 (sg.apply (digitsVal Y 0)) = true <;> simp only [hin, if_true, if_false, Bool.false_eq_true]
  simp only [scanChar_eq_ok.mpr rfl, parseDayInYear_ordinal hO]
  by_cases hle : digitsVal O 0 ≤ 4294967295 <;> simp only [hle, if_true, if_false]
  rfl

/-- **every string `[sign]digits-digits-digits` gets the result, or the date error, of
constructing the date from (year, month, day)**; a month number outside 1–12 is
`InvalidMonth` -/
theorem parse_year_month_day (c : Calendar) (sg : Sign) (Y M D : List Char)
    (hY : AllDigits Y) (hM : AllDigits M) (hD : AllDigits D) :
    c.parseDate (sg.chars ++ Y ++ '-' :: (M ++ '-' :: D)) =
      if inI32 (sg.apply (digitsVal Y 0)) then
        if digitsVal M 0 ≤ 4294967295 then
          match Month.ofInt? (digitsVal M 0) with
          | none => .error (.invalidMonth (digitsVal M 0))
          | some month =>
            if digitsVal D 0 ≤ 4294967295 then
              match c.atYmd (sg.apply (digitsVal Y 0)) month (digitsVal D 0) with
              | .ok d => .ok d
              | .error e => .error (.invalidDate e)
            else .error .parseInt
        else .error .parseInt
      else .error .parseInt := by
  have hd := parseDayInYear_date hM hD noDigitHead_nil
  rw [List.append_nil] at hd
  simp only [Calendar.parseDate, parseInt_append sg hY (noDigitHead_dash _)]
  by_cases hin : inI32 (sg.apply (digitsVal Y 0)) = true <;> simp only [hin, if_true, if_false, Bool.false_eq_true]
  simp only [scanChar_eq_ok.mpr rfl, hd]
  by_cases hle : digitsVal M 0 ≤ 4294967295 <;> simp only [hle, if_true, if_false]
  cases Month.ofInt? (digitsVal M 0 : Nat) with
  | none => rfl
  | some month =>
    by_cases hld : digitsVal D 0 ≤ 4294967295 <;> simp only [hld, if_true, if_false]
    rfl

theorem fmtYear_eq (y : Int) :
    ∃ sg : Sign, fmtYear y = sg.chars ++ padNat 4 y.natAbs ∧ sg.apply y.natAbs = y := by
  by_cases h : y < 0
  · exact ⟨.minus, by simp [fmtYear, h, Sign.chars], by simp only [Sign.apply]; omega⟩
  · exact ⟨.none, by simp [fmtYear, h, Sign.chars], by simp only [Sign.apply]; omega⟩

theorem parseDate_fmtDate (c : Calendar) (d : Date) (hy : InI32 d.year) (hd0 : 0 ≤ d.day)
    (hd1 : d.day ≤ 4294967295) :
    c.parseDate (fmtDate d) =
      (match c.atYmd d.year d.month d.day with
       | .ok x => .ok x
       | .error e => .error (.invalidDate e)) := by
  obtain ⟨sg, hf, hv⟩ := fmtYear_eq d.year
  have hm := d.month.number_bounds
  have hmn : ((d.month.number.toNat : Nat) : Int) = d.month.number := by omega
  have hdn : ((d.day.toNat : Nat) : Int) = d.day := by omega
  have hmo := d.month.ofInt?_number
  have e : fmtDate d = sg.chars ++ padNat 4 d.year.natAbs
      ++ '-' :: (padNat 2 d.month.number.toNat ++ '-' :: padNat 2 d.day.toNat) := by
    simp [fmtDate, hf]
  rw [e, parse_year_month_day c sg _ _ _ (padNat_allDigits _ _) (padNat_allDigits _ _) (padNat_allDigits _ _)]
  simp only [digitsVal_padNat, hv, (inI32_iff _).mpr hy, hmn, hdn, hmo, if_true]
  rw [if_pos (by omega), if_pos (by omega)]

theorem parseDate_fmtDateAlt (c : Calendar) (d : Date) (hy : InI32 d.year) (ho0 : 0 ≤ d.ordinal)
    (ho1 : d.ordinal ≤ 4294967295) :
    c.parseDate (fmtDateAlt d) =
      (match c.atOrdinalDate d.year d.ordinal with
       | .ok x => .ok x
       | .error e => .error (.invalidDate e)) := by
  obtain ⟨sg, hf, hv⟩ := fmtYear_eq d.year
  have hon : ((d.ordinal.toNat : Nat) : Int) = d.ordinal := by omega
  have e : fmtDateAlt d = sg.chars ++ padNat 4 d.year.natAbs ++ '-' :: padNat 3 d.ordinal.toNat := by
    simp [fmtDateAlt, hf]
  rw [e, parse_year_ordinal c sg _ _ (padNat_allDigits _ _) (padNat_allDigits _ _)]
  simp only [digitsVal_padNat, hv, (inI32_iff _).mpr hy, hon, if_true]
  rw [if_pos (by omega)]

/-- **formatting any date in either form and parsing the text in the same calendar returns
the same date** — for every date the API hands out (canonical dates, C06) -/
theorem parse_fmt (d : Date) (hc : WF d.calendar) (hj : InI32 d.jdn)
    (hcan : d.calendar.atJdn? d.jdn = some d) :
    d.calendar.parseDate (fmtDate d) = .ok d ∧ d.calendar.parseDate (fmtDateAlt d) = .ok d := by
  obtain ⟨d0, hd0, _, _, hlab⟩ := atJdn_total d.calendar hc d.jdn
  rw [hcan] at hd0; cases hd0
  have hy := (year_of_jdn_inI32 hj hlab).1
  have hday := hlab.1
  have hl := monthLen_bounds (leap (ruleAt d.calendar d.jdn) d.year) d.month
  simp only [ValidYMD] at hday
  obtain ⟨B⟩ := hc.bounded
  obtain ⟨_, ho1, ho2, _⟩ := B.field_ranges hcan
  have hex := B.toAccepting.existing hcan hy
  rw [if_pos hj] at hex
  constructor
  · rw [parseDate_fmtDate d.calendar d hy (by omega) (by omega), hex.1]
  · rw [parseDate_fmtDateAlt d.calendar d hy (by omega) (by omega), hex.2]

/-- a string that does not start with a sign or a digit is rejected with the offending
character; the empty string is rejected as an empty integer -/
theorem parse_bad_start (c : Calendar) (ch : Char) (rest : List Char)
    (h1 : ch ≠ '-') (h2 : ch ≠ '+') (h3 : isAsciiDigit ch = false) :
    c.parseDate (ch :: rest) = .error (.invalidIntStart ch) ∧ c.parseDate [] = .error .emptyInt := by
  constructor
  · simp [Calendar.parseDate, parseInt, h1, h2, h3]
  · simp [Calendar.parseDate, parseInt]

/-- **parsing gives the same result or the same date error as constructing the date from
those numbers**: a parsed date comes out of `at_ymd` / `at_ordinal_date`, and a date error
is passed through unchanged -/
theorem parse_result_origin (c : Calendar) (s : List Char) (d : Date) (h : c.parseDate s = .ok d) :
    (∃ y m dd, c.atYmd y m dd = .ok d) ∨ (∃ y o, c.atOrdinalDate y o = .ok d) := by
  obtain ⟨_, _, _, _, ⟨_, _, _, ho⟩ | ⟨_, _, _, _, _, _, _, hymd⟩⟩ := parseDate_ok_shape c s d h
  · exact Or.inr ⟨_, _, ho⟩
  · exact Or.inl ⟨_, _, _, hymd⟩

example : Calendar.gregorian.parseDate "2023-04-20".toList
    = .ok ⟨.gregorian, 2023, 110, .april, 20, 20, 2460055⟩ := by rfl
example : Calendar.gregorian.parseDate "-0001-001".toList
    = .ok ⟨.gregorian, -1, 1, .january, 1, 1, 1720695⟩ := by rfl
example : Calendar.gregorian.parseDate "2023-04-20x".toList = .error .trailing := by rfl
example : Calendar.gregorian.parseDate "2023-13-01".toList = .error (.invalidMonth 13) := by rfl

/-! `Gen.dateFmt`, `Gen.monthFmt`, `Gen.weekdayFmt` are produced by bin/libgen from the three `impl
fmt::Display` blocks of lib.rs (`write!(f, "{:04}-", …)?` appends the formatted text to an accumulator;
`f.alternate()` is a parameter); they are the model's `fmtDate` / `fmtDateAlt` and name functions the
theorems above are about. -/

theorem generated_display (d : Date) (m : Month) (w : Weekday) (alt : Bool) :
    Gen.dateFmt d false = fmtDate d ∧ Gen.dateFmt d true = fmtDateAlt d
    ∧ Gen.monthFmt m alt = (if alt then m.shortName else m.name).toList
    ∧ Gen.weekdayFmt w alt = (if alt then w.shortName else w.name).toList :=
  ⟨(Gen.dateFmt_eq d).1, (Gen.dateFmt_eq d).2, Gen.monthFmt_eq m alt, Gen.weekdayFmt_eq w alt⟩

/-- the date parser **as generated from inner.rs / lib.rs** (DESIGN.md 0.9): for every calendar a caller can
hold and every text, the generated `Calendar::parse_date` cannot fault and returns what the model's
`parseDate` returns — the function the theorems above are about —, and each generated `DateParser` step
(`parse_int`, `parse_uint`, `scan_char`, `parse_day_in_year`; a `&mut self` method returns its value with
the text that is left) is the model's step -/
theorem generated_parser (c : Calendar) (hc : WF c) (s : List Char) :
    Gen.calendarParseDate c s = some (c.parseDate s)
    ∧ Gen.toHand (Gen.dateParserParseInt s) = parseInt s
    ∧ Gen.toHand (Gen.dateParserParseUint s) = parseUInt s
    ∧ (∀ ch, Gen.toHand (Gen.dateParserScanChar s ch) = (scanChar ch s).map (fun r => ((), r)))
    ∧ Gen.toHand (Gen.dateParserParseDayInYear s) = parseDayInYear s :=
  ⟨Gen.calendarParseDate_eq c hc s, Gen.dateParserParseInt_eq s, Gen.dateParserParseUint_eq s,
    Gen.dateParserScanChar_eq s, Gen.dateParserParseDayInYear_eq s⟩

/-- inner.rs `scan` **as generated** — `char_indices().find(..)`, `len()`, `split_at(..)` with byte offsets,
generic in an `FnMut` predicate — never panics (the offset it passes to `split_at` is a character boundary,
whatever multi-byte characters the text holds and whatever the predicate answers) and is `Str.scanSt`, the
function the generated parser steps above are built on -/
theorem generated_scan {σ : Type} (s : List Char) (p : σ → Char → Bool × σ) (st : σ) :
    Gen.scanG s p st = some (Str.scanSt p st s) := by
  -- the closure `scan` hands to `find`
  have hf : (fun (st : σ) (q : Int × Char) =>
      match q with
      | (_, ch) => match p st ch with | (t2, st) => (!t2, st)) = Gen.refuses p := by
    funext a ⟨i, ch⟩; rfl
  have happ := Gen.scanSt_append p s st
  simp only [Gen.scanG, hf, Str.charIndices, Gen.find_scan p s st 0, bind, pure]
  generalize Str.scanSt p st s = r at happ ⊢
  obtain ⟨⟨pre, rest⟩, st'⟩ := r
  subst happ
  cases rest with
  | nil =>
    have h := Gen.splitAt_prefix pre []
    simp only [List.append_nil] at h ⊢
    rw [h]; rfl
  | cons c cs => simp only [Int.zero_add, Gen.splitAt_prefix]; rfl

/-- … on text with multi-byte characters: "12é3" is split after two bytes, "ééé" (all accepted) at its end -/
theorem generated_scan_examples :
    (Gen.scanG "12é3".toList (fun (_ : Unit) c => (isAsciiDigit c, ())) ()).map (·.1) = some ("12".toList, "é3".toList)
    ∧ (Gen.scanG "ééé".toList (fun (_ : Unit) _ => (true, ())) ()).map (·.1) = some ("ééé".toList, [])
    ∧ Str.splitAt "é3".toList 1 = none := by
  decide +kernel

/-- the premises are met and the generated parser computes: 1582-10-15 in the 1582 calendar, a skipped
date, a lone sign -/
theorem generated_parser_examples :
    (Gen.calendarParseDate Calendar.reform1582 "1582-10-15".toList).map (·.toOption.map (·.jdn)) = some (some 2299161)
    ∧ (Gen.calendarParseDate Calendar.reform1582 "1582-10-10".toList).map
        (fun r => match r with | .error e => some e | .ok _ => none)
        = some (some (.invalidDate (.skippedDate 1582 .october 10)))
    ∧ (Gen.calendarParseDate Calendar.gregorian "-".toList).map
        (fun r => match r with | .error e => some e | .ok _ => none) = some (some .parseInt)
    ∧ (Gen.calendarParseDate Calendar.gregorian "+2023-110".toList).map (·.toOption.map (·.jdn)) = some (some 2460055) := by
  decide +kernel

end JV.C13
