/-
C03 — A reforming calendar is Julian before the reformation, Gregorian from it on.

`IsDateR R j y m d` (Spec/Basic.lean) *is* the property: day `j` carries its
proleptic-Julian label when `j < R` and its proleptic-Gregorian label when `R ≤ j`.
The theorems hold for every reformation day `Calendar::reforming` accepts and every
integer day number.
-/
import JulianVerif.Lemmas.AtJdn
namespace JV.C03
open Spec

/-- **every day below R carries exactly its proleptic-Julian year/month/day and every day
from R on exactly its proleptic-Gregorian one**; the date is reported Old Style exactly
below R and New Style from R on -/
theorem reforming_atJdn (R : Int) (hR : InI32 R) (c : Calendar)
    (hc : Calendar.mkReforming R = .ok c) (j : Int) :
    ∃ d, c.atJdn? j = some d ∧ d.jdn = j ∧ IsDateR R j d.year d.month d.day
      ∧ (d.isJulian = true ↔ j < R) ∧ (d.isGregorian = true ↔ R ≤ j) := by
  obtain ⟨rf, rfl, rfl, _⟩ := mk_reform hc
  obtain ⟨d, h, hcal, hj, hd⟩ := atJdn_total rf.cal (WF.of_mkReforming hR hc) j
  refine ⟨d, h, hj, ?_, ?_, ?_⟩
  · simpa [IsDateR, Reform.cal, ruleAt] using hd
  · simp [Date.isJulian, hcal, Reform.cal, hj]
  · simp [Date.isGregorian, hcal, Reform.cal, hj]

/-- the calendar's advertised last Julian date and first Gregorian date are the dates of
day R-1 and day R -/
theorem boundary_dates (R : Int) (hR : InI32 R) (c : Calendar) (hc : Calendar.mkReforming R = .ok c) :
    c.lastJulianDate = c.atJdn? (R - 1) ∧ c.firstGregorianDate = c.atJdn? R
    ∧ c.lastJulianDate ≠ none ∧ c.firstGregorianDate ≠ none := by
  obtain ⟨rf, rfl, rfl, _⟩ := mk_reform hc
  refine ⟨rf.lastJulianDate_eq, rf.firstGregorianDate_eq, ?_, ?_⟩ <;>
    simp [Reform.cal, Calendar.lastJulianDate, Calendar.firstGregorianDate]

/-- **the calendar only ever skips forward**: the first Gregorian label is later than the
last Julian label, with at least one label skipped between them -/
theorem skips_forward (R : Int) (hR : InI32 R) (c : Calendar) (hc : Calendar.mkReforming R = .ok c) :
    ∃ dJ dG, c.lastJulianDate = some dJ ∧ c.firstGregorianDate = some dG
      ∧ (dJ.year < dG.year
          ∨ (dJ.year = dG.year ∧ (dJ.month.number < dG.month.number
              ∨ (dJ.month = dG.month ∧ dJ.day + 2 ≤ dG.day)))) := by
  obtain ⟨rf, rfl, rfl, _⟩ := mk_reform hc
  refine ⟨_, _, rfl, rfl, ?_⟩
  rcases rf.label_order with a | ⟨e, a | ⟨e2, a⟩⟩
  · exact Or.inl a
  · exact Or.inr ⟨e, Or.inl a⟩
  · exact Or.inr ⟨e, Or.inr ⟨Month.number_inj _ _ e2, a⟩⟩

/-- conversion between calendars is `at_jdn` of the same day number in the target -/
theorem convertTo_eq (d : Date) (c : Calendar) : d.convertTo? c = c.atJdn? d.jdn := rfl

/-- the built-in 1582 calendar skips from October 4 (O.S.) to October 15 (N.S.) -/
theorem reform1582_boundary :
    Calendar.reform1582.atJdn? 2299160 = some ⟨Calendar.reform1582, 1582, 277, .october, 4, 4, 2299160⟩
    ∧ Calendar.reform1582.atJdn? 2299161 = some ⟨Calendar.reform1582, 1582, 278, .october, 15, 5, 2299161⟩ :=
  ⟨rfl, rfl⟩

end JV.C03
