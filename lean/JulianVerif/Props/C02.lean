/-
C02 — Proleptic Julian and Gregorian dates match the astronomical definition.

The specification (Spec/Basic.lean): leap rules in astronomical numbering; `yearStart`
is pinned down by `years_tile` (consecutive years abut) and the anchors
(JDN 0 = -4712-01-01 Julian = -4713-11-24 Gregorian); `IsDate ρ j y m d` says day `j` is
(y, m, d).  The theorems are about the model of the code (Model/Inner.lean,
Model/Calendar.lean), for every integer — no bound.
-/
import JulianVerif.Lemmas.Proleptic
import JulianVerif.Lemmas.YearStart
namespace JV.C02
open Spec

/-- consecutive years abut: Jan 1 of year y+1 is `yearLen` days after Jan 1 of year y -/
theorem years_tile (ρ : Rule) (y : Int) : yearStart ρ (y + 1) = yearStart ρ y + yearLen ρ y :=
  yearStart_succ ρ y

/-- JDN 0 is -4712-01-01 Julian = -4713-11-24 Gregorian -/
theorem anchors :
    IsDate .julian 0 (-4712) .january 1 ∧ IsDate .gregorian 0 (-4713) .november 24 := by
  unfold IsDate ValidYMD; decide

/-- every day number has exactly one label -/
theorem label_unique {ρ : Rule} {j y y' : Int} {m m' : Month} {d d' : Int}
    (h : IsDate ρ j y m d) (h' : IsDate ρ j y' m' d') : y = y' ∧ m = m' ∧ d = d' :=
  isDate_unique h h'

/-- the code's leap-year tests are the astronomical rules (0 and -4 are leap) -/
theorem leap_rules (y : Int) :
    (isJulianLeapYear y = true ↔ y % 4 = 0)
    ∧ (isGregorianLeapYear y = true ↔ (y % 4 = 0 ∧ (y % 100 ≠ 0 ∨ y % 400 = 0))) := by
  rw [isJulianLeapYear_eq, isGregorianLeapYear_eq]
  exact ⟨leap_julian_iff y, leap_gregorian_iff y⟩

/-- year kind and length of the proleptic calendars -/
theorem year_kind_length (y : Int) :
    Calendar.julian.yearKind y = (if y % 4 = 0 then .leap else .common)
    ∧ Calendar.julian.yearLength y = (if y % 4 = 0 then 366 else 365)
    ∧ Calendar.gregorian.yearKind y
        = (if y % 4 = 0 ∧ (y % 100 ≠ 0 ∨ y % 400 = 0) then .leap else .common)
    ∧ Calendar.gregorian.yearLength y
        = (if y % 4 = 0 ∧ (y % 100 ≠ 0 ∨ y % 400 = 0) then 366 else 365) := by
  rw [show Calendar.julian = ruleCal .julian from rfl, show Calendar.gregorian = ruleCal .gregorian from rfl]
  simp only [ruleCal_yearKind, ruleCal_yearLength, yearLen]
  by_cases h4 : y % 4 = 0 <;> by_cases h100 : y % 100 = 0 <;> by_cases h400 : y % 400 = 0 <;>
    simp [leap, h4, h100, h400]

/-- **for every day number, `JULIAN.at_jdn` succeeds and reports the date the definition
gives** (all seven fields: year, day of year, month, day, in-month ordinal, JDN) -/
theorem julian_atJdn (j : Int) :
    ∃ y m d, Calendar.julian.atJdn? j
        = some ⟨.julian, y, daysBefore (leap .julian y) m + d, m, d, d, j⟩
      ∧ IsDate .julian j y m d :=
  ruleCal_atJdn .julian j

/-- the same for `GREGORIAN.at_jdn` -/
theorem gregorian_atJdn (j : Int) :
    ∃ y m d, Calendar.gregorian.atJdn? j
        = some ⟨.gregorian, y, daysBefore (leap .gregorian y) m + d, m, d, d, j⟩
      ∧ IsDate .gregorian j y m d :=
  ruleCal_atJdn .gregorian j

/-- **construction from (year, month, day)**: succeeds with the defined day number exactly
for valid dates whose day number fits in 32 bits; a valid date beyond the range is an
arithmetic error, never a wrong day number; an invalid day is out of range -/
theorem atYmd_proleptic (ρ : Rule) (y : Int) (hy : InI32 y) (m : Month) (d : Int) :
    (ruleCal ρ).atYmd y m d =
      if 1 ≤ d ∧ d ≤ monthLen (leap ρ y) m then
        (if InI32 (jdnOf ρ y m d)
          then .ok ⟨ruleCal ρ, y, daysBefore (leap ρ y) m + d, m, d, d, jdnOf ρ y m d⟩
          else .error .arithmetic)
      else .error (.dayOutOfRange y m d 1 (monthLen (leap ρ y) m)) :=
  -- `hy` is not needed: the guards of `julian2jdn` / `gregorian2jdn` come before any arithmetic on the year
  ruleCal_atYmd ρ y m d

/-- the documented ends of the supported range are the ends of the 32-bit day numbers -/
theorem range_ends :
    jdnOf .julian (-5884202) .march 16 = -2147483648
    ∧ jdnOf .julian 5874777 .october 17 = 2147483647
    ∧ jdnOf .gregorian (-5884323) .may 15 = -2147483648
    ∧ jdnOf .gregorian 5874898 .june 3 = 2147483647 := by
  decide

/-- hypotheses are satisfiable: a concrete instance of `atYmd_proleptic` on each side of the
range end -/
example : Calendar.gregorian.atYmd 5874898 .june 3
    = .ok ⟨.gregorian, 5874898, 154, .june, 3, 3, 2147483647⟩ := by rfl
example : Calendar.gregorian.atYmd 5874898 .june 4 = .error .arithmetic := by rfl

end JV.C02
