/-
C14 — Unix and system timestamps map to the right day and second.

A `SystemTime` enters the model as what `duration_since(UNIX_EPOCH)` reveals: the side of
the epoch, whole seconds and sub-second nanoseconds; the instant is the rational number
±(secs + nanos·10⁻⁹).  The clock itself (`now`) is a parameter (DESIGN.md §10).
-/
import JulianVerif.Model.Time
import JulianVerif.Lemmas.GenTime
import JulianVerif.Props.C05
namespace JV.C14

/-- day number ⌊t/86400⌋ + 2440588 and second-of-day t mod 86400 when the day fits in 32
bits; an arithmetic error otherwise -/
theorem unix2jdn_spec (t : Int) :
    unix2jdn t = if InI32 (t / 86400 + 2440588) then some (t / 86400 + 2440588, t % 86400)
                 else none := by
  simp only [unix2jdn, inI32_iff]

/-- the error range is exactly outside -185753453990400 ..= 185331720383999 -/
theorem unix_range (t : Int) :
    InI32 (t / 86400 + 2440588) ↔ (-185753453990400 ≤ t ∧ t ≤ 185331720383999) := by
  omega

/-- the second of day is the Euclidean remainder: it lies in 0..86399 and
`t = 86400·day + second` also for negative `t` -/
theorem unix_second (t : Int) :
    0 ≤ t % 86400 ∧ t % 86400 < 86400 ∧ t = 86400 * (t / 86400) + t % 86400 := by omega

/-- a day number converts to that day's midnight, and back -/
theorem jdn2unix_roundtrip (j : Int) (hj : InI32 j) :
    jdn2unix j = (j - 2440588) * 86400 ∧ InI64 (jdn2unix j) ∧ unix2jdn (jdn2unix j) = some (j, 0) := by
  refine ⟨rfl, ?_, ?_⟩
  · simp only [jdn2unix]; omega
  · rw [unix2jdn_spec]
    have e1 : jdn2unix j / 86400 + 2440588 = j := by simp only [jdn2unix]; omega
    have e2 : jdn2unix j % 86400 = 0 := by simp only [jdn2unix]; omega
    rw [e1, e2, if_pos hj]

/-- a calendar's timestamp conversion is that day expressed in that calendar -/
theorem atUnixTime_eq (c : Calendar) (t : Int) :
    c.atUnixTime? t =
      match unix2jdn t with
      | none => some none
      | some (j, s) => (c.atJdn? j).map fun d => some (d, s) := by
  simp only [Calendar.atUnixTime?]
  cases unix2jdn t with
  | none => rfl
  | some p =>
    obtain ⟨j, s⟩ := p
    simp only []
    cases c.atJdn? j <;> rfl

/-- **system-clock instants are floored**: the instant ±(secs + nanos·10⁻⁹) seconds from
the epoch is assigned to the Unix second ⌊instant⌋ — also before 1970 with a fraction -/
theorem system_floor (before : Bool) (secs nanos : Int) (hs0 : 0 ≤ secs)
    (hs1 : secs ≤ 9223372036854775807) (hn0 : 0 ≤ nanos) (hn1 : nanos < 1000000000) :
    system2jdn before secs nanos =
      unix2jdn ((if before then -(secs * 1000000000 + nanos) else secs * 1000000000 + nanos)
                  / 1000000000) := by
  simp only [system2jdn]
  have h : ¬ secs > 9223372036854775807 := by omega
  rw [if_neg h]
  cases before
  · simp only [Bool.false_eq_true, if_false]
    congr 1; omega
  · simp only [if_true]
    by_cases hn : nanos > 0
    · rw [if_pos hn]; congr 1; omega
    · rw [if_neg hn]; congr 1; omega

/-- seconds that do not fit `i64` are refused (unreachable on platforms whose clock is i64) -/
theorem system_overflow (before : Bool) (secs nanos : Int) (h : 9223372036854775807 < secs) :
    system2jdn before secs nanos = none := by
  simp only [system2jdn]; rw [if_pos h]

/-- non-vacuity: half a second before the epoch is 1969-12-31 23:59:59 -/
example : system2jdn true 0 500000000 = some (2440587, 86399) := by decide
example : system2jdn true 1 500000000 = some (2440587, 86398) := by decide
example : unix2jdn 185331720383999 = some (2147483647, 86399) := by decide
example : unix2jdn 185331720384000 = none := by decide

/-- `system2jdn` **as generated from lib.rs** (DESIGN.md 0.9; a `SystemTime` is the side of the epoch it is
on, its whole seconds — a `u64`, hence `0 ≤ secs` — and its nanoseconds): it cannot fault and is the
function `system_floor` is about -/
theorem generated_system2jdn (before : Bool) (secs nanos : Int) (hs : 0 ≤ secs) :
    Gen.system2jdnG (before, secs, nanos) = some (system2jdn before secs nanos) := by
  rw [Gen.system2jdnG_eq _ _ _ hs]
  exact C05.timestamps_no_panic.2.2 before secs nanos hs

/-- the generated `Calendar::at_system_time`, for every calendar a caller can hold: no fault, and the
model's answer (the calendar's date for the day the instant falls in) -/
theorem generated_at_system_time (c : Calendar) (hc : WF c) (before : Bool) (secs nanos : Int) (hs : 0 ≤ secs) :
    Gen.calendarAtSystemTime c (before, secs, nanos) = c.atSystemTime? before secs nanos
    ∧ c.atSystemTime? before secs nanos ≠ none := by
  obtain ⟨hj, _, _⟩ := C05.generated_constructors c hc
  simp only [Gen.calendarAtSystemTime, generated_system2jdn before secs nanos hs, Calendar.atSystemTime?,
    bind, Option.bind, pure]
  cases hq : system2jdn before secs nanos with
  | none => simp
  | some p =>
    obtain ⟨j, s⟩ := p
    have hr := system2jdn_inI32 hq
    obtain ⟨h1, h2⟩ := hj j hr
    simp only [h1]
    cases hd : c.atJdn? j with
    | none => exact absurd hd h2
    | some d => simp

/-- the generated `Calendar::now()` — the clock's reading is a parameter of the generated function —
is `at_system_time` of that reading: the asking calendar's date for the day the clock is in, whoever asked
before -/
theorem generated_now (c : Calendar) (hc : WF c) (before : Bool) (secs nanos : Int) (hs : 0 ≤ secs) :
    Gen.calendarNow c (before, secs, nanos) = c.atSystemTime? before secs nanos := by
  rw [Gen.calendarNow_eq]; exact (generated_at_system_time c hc before secs nanos hs).1

end JV.C14
