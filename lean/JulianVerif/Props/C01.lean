/-
C01 — JDN → date → JDN round trip is exact in every calendar.
-/
import JulianVerif.Lemmas.ShapedInst
import JulianVerif.Lemmas.Counts
namespace JV.C01
open Spec

/-- **every calendar a caller can hold, every day number (no bound): converting the day
number to a date succeeds and yields a date that reports that same day number** and belongs
to that calendar, labelled as the specification says (Julian before R, Gregorian from R) -/
theorem atJdn_total (c : Calendar) (hc : WF c) (j : Int) :
    ∃ d, c.atJdn? j = some d ∧ d.calendar = c ∧ d.jdn = j
      ∧ IsDate (ruleAt c j) j d.year d.month d.day :=
  JV.atJdn_total c hc j

/-- **feeding that date's year/month/day, or its year/day-of-year, back into the same
calendar returns the identical date** (all seven fields), for every 32-bit day number -/
theorem roundtrip (c : Calendar) (hc : WF c) (j : Int) (hj : InI32 j) (d : Date)
    (h : c.atJdn? j = some d) :
    c.atYmd d.year d.month d.day = .ok d ∧ c.atOrdinalDate d.year d.ordinal = .ok d := by
  obtain ⟨A⟩ := hc.accepting
  have := A.existing h (hc.yrange hj h).1
  rwa [if_pos hj] at this

/-- the hypotheses are satisfiable: the calendar reforming on day 2299664 (which used to
panic on Dec 31, 1584 — defect D1) and that very day -/
example : ∃ c, Calendar.mkReforming 2299664 = .ok c
    ∧ c.atJdn? 2299969 = some ⟨c, 1584, 356, .december, 31, 31, 2299969⟩ := ⟨_, rfl, rfl⟩

/-- **no two day numbers of one calendar share a year/month/day** -/
theorem label_injective (c : Calendar) (hc : WF c) (j j' : Int) (d d' : Date)
    (h : c.atJdn? j = some d) (h' : c.atJdn? j' = some d')
    (hl : d.year = d'.year ∧ d.month = d'.month ∧ d.day = d'.day) : j = j' := by
  obtain ⟨A⟩ := hc.accepting
  exact A.label_injective h h' hl

/-- proleptic calendars, every integer day number: `at_jdn` succeeds, the date reports that
day number, and feeding its year/month/day or its year/day-of-year back returns the
identical date (when the year fits the `i32` parameter, which it does for 32-bit `j`) -/
theorem roundtrip_proleptic (ρ : Rule) (j : Int) (hj : InI32 j) :
    ∃ d, (ruleCal ρ).atJdn? j = some d ∧ d.jdn = j
      ∧ (InI32 d.year → (ruleCal ρ).atYmd d.year d.month d.day = .ok d
                        ∧ (ruleCal ρ).atOrdinalDate d.year d.ordinal = .ok d) := by
  obtain ⟨y, m, dd, hat, _⟩ := ruleCal_atJdn ρ j
  refine ⟨_, hat, rfl, fun hy => ?_⟩
  have := (ruleCal_shaped ρ).existing hat hy
  rwa [if_pos hj] at this

/-- no two day numbers of a proleptic calendar share a year/month/day -/
theorem label_injective_proleptic (ρ : Rule) (j j' : Int) (d d' : Date)
    (h : (ruleCal ρ).atJdn? j = some d) (h' : (ruleCal ρ).atJdn? j' = some d')
    (hl : d.year = d'.year ∧ d.month = d'.month ∧ d.day = d'.day) : j = j' :=
  (ruleCal_shaped ρ).label_injective h h' hl

end JV.C01
