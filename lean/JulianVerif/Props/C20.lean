/-
C20 — JSON output is well-formed and agrees with the text output.

Partial by nature (see C18: lexopt, the process and stdout are modelled).  Within the model:

* `json_valid` / `main_json_valid`: for every command line and any number of arguments the
  text written with -J **is a JSON document** in the sense of RFC 8259 (Spec/Json.lean: a
  sub-grammar of the RFC's — integers, strings without escapes, `true`/`false`, arrays,
  objects, whitespace) and **denotes** the value `docVal`: an object with the member
  `calendar` (type, and the reformation day exactly for a reforming calendar) and the member
  `dates`, an array with one object per argument, in argument order, holding the day number,
  year, month, day, day of year, both display strings and — exactly for reforming calendars —
  `old_style`, of the date that argument denotes (`date_value`, `calendar_value`);
* the older structural theorems (`jsonPatch_pieces`, `json_document`, …) remain.
-/
import JulianVerif.Lemmas.JsonValid
namespace JV.C20
open Cli

/-- the patching keeps the number of pieces -/
theorem jsonPatch_length (out : List String) : (jsonPatch out).length = out.length :=
  Cli.jsonPatch_length out

/-- **commas and closing brackets, for any number of pieces**: the last piece is followed by
the closing `]` `}`, every earlier piece except the document head by a comma, the head by
nothing -/
theorem jsonPatch_pieces (out : List String) (i : Nat) (hi : i < out.length) :
    (jsonPatch out)[i]'(by rw [Cli.jsonPatch_length]; exact hi)
      = if i = out.length - 1 then out[i] ++ "\n    ]\n}"
        else if 1 ≤ i then out[i] ++ "," else out[i] :=
  jsonPatch_getElem out i hi

/-- **the document**: with -J and n ≥ 1 acceptable arguments the output is the head, then
one object per argument in argument order, each the JSON rendering of the date that argument
denotes; objects 1 … n-1 are followed by a comma, object n by the closing brackets -/
theorem json_document (o : Options) (hj : o.json = true) (today : Int) (args : List String)
    (hne : args ≠ []) (ls : List String) (h : argLines o args = .ok ls) :
    o.run today args = .ok (jsonPatch (jsonStart o.calendar :: ls))
    ∧ ls.length = args.length
    ∧ (∀ i (h1 : i < args.length) (h2 : i < ls.length),
        ∃ d, argDate o args[i] = some d ∧ ls[i] = date2json d)
    ∧ (∀ i (h2 : i < ls.length),
        (jsonPatch (jsonStart o.calendar :: ls))[i + 1]'(by
            rw [Cli.jsonPatch_length]; simp; omega)
          = ls[i] ++ (if i + 1 = ls.length then "\n    ]\n}" else ",")) := by
  refine ⟨?_, argLines_length o args ls h, ?_, ?_⟩
  · rw [run_cons o today hne, h, hj]; rfl
  · intro i h1 h2
    obtain ⟨d, hd, hl⟩ := argLines_getElem o h i h1 h2
    exact ⟨d, hd, by rw [hl, hj]; rfl⟩
  · intro i h2
    rw [jsonPatch_getElem _ (i + 1) (by simp; omega)]
    simp only [List.length_cons, List.getElem_cons_succ, Nat.add_sub_cancel]
    by_cases hl : i + 1 = ls.length
    · simp [hl, jsonTail]
    · simp [hl]

/-- with no arguments the document holds the one object of the clock's date -/
theorem json_no_args (o : Options) (hj : o.json = true) (today : Int) (d : Date)
    (h : o.calendar.atJdn? today = some d) :
    o.run today [] = .ok [jsonStart o.calendar, date2json d ++ "\n    ]\n}"] := by
  simp only [run_nil, h, hj, Options.dateToJdn, if_true]; rfl

/-- **JSON and text report the same date**: the date an argument denotes does not depend on
any output option; the JSON object is `date2json` of it, the text line `textLine` of it -/
theorem json_agrees_with_text (o : Options) (a : String) (l : String) :
    argDate { o with json := true } a = argDate { o with json := false } a
    ∧ (argLine { o with json := true } a = .ok l
        ↔ ∃ d, argDate o a = some d ∧ l = date2json d)
    ∧ (argLine { o with json := false } a = .ok l
        ↔ ∃ d, argDate o a = some d ∧ l = textLine { o with json := false } a d) := by
  refine ⟨rfl, ?_, ?_⟩
  · rw [argLine_ok_iff]; simp only [if_true]; rfl
  · rw [argLine_ok_iff]; simp only [Bool.false_eq_true, if_false]; rfl

/-- **the date object**: day number, year, month, day, day of year and both display strings
of one and the same date, then the `old_style` member (next theorem) -/
theorem date_object (d : Date) :
    date2json d =
      sp 8 ++ "{\n" ++
      sp 12 ++ s!"\"julian_day_number\": {d.jdn},\n" ++
      sp 12 ++ s!"\"year\": {d.year},\n" ++
      sp 12 ++ s!"\"month\": {d.month.number},\n" ++
      sp 12 ++ s!"\"day\": {d.day},\n" ++
      sp 12 ++ s!"\"ordinal\": {d.ordinal},\n" ++
      sp 12 ++ "\"display\": \"" ++ String.ofList (JV.fmtDate d) ++ "\",\n" ++
      sp 12 ++ "\"ordinal_display\": \"" ++ String.ofList (fmtDateAlt d) ++ "\"" ++
      (if d.calendar.isReforming then
        ",\n" ++ sp 12 ++ "\"old_style\": " ++ (if d.isJulian then "true" else "false")
       else "") ++
      "\n" ++ sp 8 ++ "}" := rfl

/-- **`old_style` is present exactly for reforming calendars and is true exactly for days
before the reformation** -/
theorem old_style_member (d : Date) :
    (if d.calendar.isReforming then
        ",\n" ++ sp 12 ++ "\"old_style\": " ++ (if d.isJulian then "true" else "false")
      else "")
    = (match d.calendar with
       | .reforming r _ =>
         ",\n" ++ sp 12 ++ "\"old_style\": " ++ (if d.jdn < r then "true" else "false")
       | _ => "") := by
  cases hc : d.calendar <;> simp [Calendar.isReforming, Date.isJulian, hc]

/-- **the calendar object** names the selected calendar, with its reformation day exactly
when it is a reforming calendar -/
theorem calendar_object (c : Calendar) :
    jsonStart c =
      "{\n" ++ sp 4 ++ "\"calendar\": {\n" ++ sp 8 ++ "\"type\": \"" ++
      (match c with
       | .julian => "julian"
       | .gregorian => "gregorian"
       | .reforming _ _ => "reforming") ++ "\"" ++
      (match c with
       | .reforming r _ => ",\n" ++ sp 8 ++ s!"\"reformation\": {r}"
       | _ => "") ++
      "\n" ++ sp 4 ++ "},\n" ++ sp 4 ++ "\"dates\": [" := by
  cases c <;> rfl

/-- the display strings need no JSON escaping: they consist of digits and '-' only -/
theorem display_strings_plain (d : Date) :
    (∀ c ∈ JV.fmtDate d, isAsciiDigit c = true ∨ c = '-')
    ∧ (∀ c ∈ fmtDateAlt d, isAsciiDigit c = true ∨ c = '-') :=
  fmtDate_chars d

/-- **the output is a valid JSON document and denotes the reported dates**: for every
successful run with -J there are dates `ds` — the clock's date when there are no arguments,
otherwise one per argument, in order, each the date that argument denotes — such that the
text written (every piece followed by a newline) is a JSON document whose value is
`docVal calendar ds` -/
theorem json_valid (o : Options) (hj : o.json = true) (today : Int) (args out : List String)
    (h : o.run today args = .ok out) :
    ∃ ds : List Date,
      (args = [] → ∃ d, o.calendar.atJdn? today = some d ∧ ds = [d])
      ∧ (args ≠ [] → ds.length = args.length
          ∧ ∀ i (h1 : i < args.length) (h2 : i < ds.length), argDate o args[i] = some ds[i])
      ∧ Json.Doc (Json.docVal o.calendar ds) (String.join (out.map (· ++ "\n"))).toList := by
  cases args with
  | nil =>
    rw [run_nil] at h
    cases hat : o.calendar.atJdn? today with
    | none => rw [hat] at h; cases h
    | some d =>
      simp only [hat, hj, Options.dateToJdn, if_true] at h
      cases h
      exact ⟨[d], fun _ => ⟨d, rfl, rfl⟩, fun hne => absurd rfl hne,
        Json.doc_of_output o.calendar [d] (List.cons_ne_nil _ _)⟩
  | cons a as =>
    rw [run_cons o today (List.cons_ne_nil a as)] at h
    cases hl : argLines o (a :: as) with
    | error e => rw [hl] at h; cases e <;> cases h
    | ok ls =>
      simp only [hl, hj, if_true] at h
      cases h
      obtain ⟨ds, h1, h2, h3⟩ := Json.argLines_json o hj (a :: as) ls hl
      refine ⟨ds, fun e => absurd e (List.cons_ne_nil a as), fun _ => ⟨h1, h3⟩, ?_⟩
      rw [h2]
      exact Json.doc_of_output o.calendar ds (by intro e; rw [e] at h1; cases h1)

/-- the same for the process as a whole: whatever the argument vector, if it selects -J and
the command succeeds, standard output is one JSON document -/
theorem main_json_valid (today : Int) (argv : List Bytes) (o : Options) (args : List String)
    (hc : parseCommand argv = .run o args) (hj : o.json = true) (stdout : String)
    (h : Cli.main today argv = .out stdout) :
    ∃ ds : List Date, Json.Doc (Json.docVal o.calendar ds) stdout.toList := by
  simp only [Cli.main, hc] at h
  cases hr : o.run today args with
  | panic => rw [hr] at h; cases h
  | error => rw [hr] at h; cases h
  | ok ls =>
    rw [hr] at h
    simp only [Outcome.out.injEq] at h
    obtain ⟨ds, _, _, hd⟩ := json_valid o hj today args ls hr
    exact ⟨ds, by rw [← h]; exact hd⟩

/-- **the value of a date object**: the numeric members, the two display strings, and
`old_style` exactly for a reforming calendar, true exactly before the reformation -/
theorem date_value (d : Date) :
    Json.dateVal d = .obj (
      [ ("julian_day_number".toList, .int d.jdn), ("year".toList, .int d.year),
        ("month".toList, .int d.month.number), ("day".toList, .int d.day),
        ("ordinal".toList, .int d.ordinal),
        ("display".toList, .str (JV.fmtDate d)), ("ordinal_display".toList, .str (fmtDateAlt d)) ]
      ++ (match d.calendar with
          | .reforming r _ => [("old_style".toList, .bool (decide (d.jdn < r)))]
          | _ => [])) := by
  cases hc : d.calendar <;>
    simp [Json.dateVal, Json.dateMembers, Json.intM, Json.strM, Json.boolM,
      Calendar.isReforming, Date.isJulian, hc]

/-- **the value of the calendar object** -/
theorem calendar_value (c : Calendar) :
    Json.calVal c = .obj (
      ("type".toList, .str (match c with
                            | .julian => "julian".toList
                            | .gregorian => "gregorian".toList
                            | .reforming _ _ => "reforming".toList)) ::
      (match c with
       | .reforming r _ => [("reformation".toList, .int r)]
       | _ => [])) := by
  cases c <;> rfl

/-- `{}` of any integer is a JSON number denoting that integer -/
theorem integers_are_json_numbers (i : Int) : Json.IntTok i (toString i).toList :=
  Json.intTok_toString i

/-- non-vacuity: `julian -J 2299161` (bytes `-J`, `2299161`) succeeds in the model with a
document on standard output, so `main_json_valid` speaks about a real run -/
example : (match Cli.main 0 [[45, 74], [50, 50, 57, 57, 49, 54, 49]] with
           | .out _ => true | _ => false) = true := by decide

end JV.C20
