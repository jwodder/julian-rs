/-
C17 — Double-ended month iterators yield each item exactly once in any interleaving.

Refinement: each iterator, driven by *any* finite sequence over {next, next_back, len},
produces what the obvious specification produces — a list popped from both ends
(`specRun`).  For a list popped from both ends the claims of the property are immediate:
fronts come out ascending, backs descending, nothing is repeated or lost, the length is
exact, and an empty list keeps yielding nothing.  The list is the list of in-month ordinals
(month numbers); an item is what `nth_day` / `nth_date` (`Month::try_from`) makes of the ordinal
taken.  That `nth_day` answers on exactly `1..=len` and is increasing is `IShape.nthDay_some_iff`,
`nthDay_strictMono` (Lemmas/Shape.lean); that `nth_date` answers on every ordinal between the two
`Dates` starts from is not proved here.
-/
import JulianVerif.Lemmas.Deque
import JulianVerif.Lemmas.GenLibWF
import JulianVerif.Lemmas.GenLibDates
import JulianVerif.Lemmas.CheckedCal
namespace JV.C17

/-- the `RangeInclusive` core all three iterators delegate to -/
theorem range_refines (r : RangeIncl) (ops : List DOp) : r.run ops = specRun r.toList ops :=
  r.run_refines ops

/-- **`MonthShape::days()`**: any interleaving yields the month's day list
`[nth_day 1, …, nth_day len]` popped from both ends, with exact lengths -/
theorem days_refines (s : MonthShape) (ops : List DOp) :
    (Days.new s).run ops = (specRun (ival 1 s.len.toNat) ops).map (DOut.map s.nthDay) := by
  rw [Days.run_eq, RangeIncl.run_refines, Days.new, RangeIncl.toList_new, Int.sub_add_cancel]

/-- **`MonthIter`**: any interleaving yields January … December popped from both ends; the
`.expect` in it can never fire because 1..=12 are month numbers -/
theorem months_refines (ops : List DOp) :
    MonthIter.new.run ops = (specRun (ival 1 12) ops).map (DOut.map Month.ofInt?) := by
  rw [MonthIter.run_eq, RangeIncl.run_refines]
  rfl

/-- **`MonthShape::dates()`**: any interleaving yields the dates at the iterated in-month
ordinals popped from both ends; the iterated ordinals are `start..=end` after trimming the
unrepresentable ones at either end (fix F5), and nothing representable is trimmed -/
theorem dates_refines (s : MonthShape) (ops : List DOp) :
    (Dates.new s).run ops
      = (specRun (Dates.new s).inner.toList ops).map (DOut.mapD s.nthDate)
    ∧ (∀ k, 1 ≤ k → k ≤ s.len →
        (k < (Dates.new s).inner.start ∨ (Dates.new s).inner.stop < k) → s.nthDate k = none) := by
  refine ⟨by rw [Dates.run_eq, RangeIncl.run_refines]; rfl, fun k h1 h2 h => ?_⟩
  simp only [Dates.new, RangeIncl.new] at h
  exact h.elim ((Dates.trimStart_spec s _ 1 s.len).2 k h1) (Dates.trimEnd_spec s _ _ s.len k · h2)

/-- the specification itself has the claimed properties: the reported length is exact and
drops by one per item taken, from either end -/
theorem spec_len {α : Type} (l : List α) :
    l.tail.length = l.length - 1 ∧ l.dropLast.length = l.length - 1 := by
  constructor <;> simp

/-- after exhaustion the specification keeps returning nothing -/
theorem spec_fused {α : Type} (ops : List DOp) :
    ∀ o ∈ specRun ([] : List α) ops, (match o with | .item x => x.isNone = true | .len n => n = 0) := by
  induction ops with
  | nil => nofun
  | cons op ops ih =>
    intro o h
    cases op <;>
      (simp only [specRun, List.mem_cons, List.head?_nil, List.tail_nil, List.getLast?_nil, List.dropLast_nil,
        List.length_nil] at h
       rcases h with rfl | h
       · rfl
       · exact ih o h)

/-- one step of the specification: what is taken from the front is the head and the rest is
the tail; what is taken from the back is the last element and the rest is the list without
it — so no item is ever repeated or lost, fronts ascend and backs descend in list order -/
theorem spec_step {α : Type} (l : List α) (ops : List DOp) :
    specRun l (.front :: ops) = .item l.head? :: specRun l.tail ops
    ∧ specRun l (.back :: ops) = .item l.getLast? :: specRun l.dropLast ops
    ∧ specRun l (.len :: ops) = .len l.length :: specRun l ops := ⟨rfl, rfl, rfl⟩

/-- `MonthIter` never hits its `.expect`: every index of `1..=12` is a month number -/
theorem monthIter_no_panic (n : Int) (h1 : 1 ≤ n) (h2 : n ≤ 12) : (Month.ofInt? n).isSome = true :=
  Month.ofInt?_isSome h1 h2

/-- a concrete interleaving on October 1582 (21 days, 5–14 removed) -/
example : (Days.new ⟨Calendar.reform1582, 1582, .october, .gapped 5 14 31⟩).run
      [.front, .back, .len, .front, .back]
    = [.item (some 1), .item (some 31), .len 19, .item (some 2), .item (some 30)] := by rfl

/-! `Gen.daysNext`, `Gen.datesNext`, `Gen.monthIterNext` and their `next_back` twins are produced by
bin/libgen from the `impl Iterator` / `impl DoubleEndedIterator` blocks of iter.rs (`&mut self`
becomes a returned receiver, `?` an early return, `RangeInclusive` the `RangeIncl` model of core's
implementation).  One generated step is one step of the model the refinement theorems above are
about. -/

/-- one generated step of `Days` is the model's step, for every shape `month_shape` returns and
every state whose next ordinal is a `u32` -/
theorem generated_days_step (c : Calendar) (hc : WF c) (y : Int) (m : Month) (s : IShape)
    (hs : c.monthIShape y m = some s) (r : RangeIncl)
    (hn : ∀ n, (r.next.1 = some n ∨ r.nextBack.1 = some n) → InU32 n) :
    Gen.daysNext ⟨⟨c, y, m, s⟩, r⟩ = some (Days.next ⟨⟨c, y, m, s⟩, r⟩)
    ∧ Gen.daysNextBack ⟨⟨c, y, m, s⟩, r⟩ = some (Days.nextBack ⟨⟨c, y, m, s⟩, r⟩)
    ∧ Gen.daysSizeHint ⟨⟨c, y, m, s⟩, r⟩ = (r.len, some r.len) := by
  obtain ⟨B⟩ := hc.bounded
  have hf := B.fits hs
  refine ⟨?_, ?_, rfl⟩
  · rw [Gen.daysNext_eq]; simp only [Days.next, MonthShape.nthDay]
    rcases h : r.next with ⟨_ | n, r'⟩
    · rfl
    · simp only []; rw [Chk.nthDay_eq s hf n (hn n (Or.inl (by rw [h])))]; rfl
  · rw [Gen.daysNextBack_eq]; simp only [Days.nextBack, MonthShape.nthDay]
    rcases h : r.nextBack with ⟨_ | n, r'⟩
    · rfl
    · simp only []; rw [Chk.nthDay_eq s hf n (hn n (Or.inr (by rw [h])))]; rfl

/-- one generated step of `Dates` is the model's step -/
theorem generated_dates_step (c : Calendar) (hc : WF c) (y : Int) (hy : InI32 y) (m : Month) (s : IShape)
    (hs : c.monthIShape y m = some s) (r : RangeIncl)
    (hn : ∀ n, (r.next.1 = some n ∨ r.nextBack.1 = some n) → InU32 n) :
    Gen.datesNext ⟨⟨c, y, m, s⟩, r⟩ = some (Dates.next ⟨⟨c, y, m, s⟩, r⟩)
    ∧ Gen.datesNextBack ⟨⟨c, y, m, s⟩, r⟩ = some (Dates.nextBack ⟨⟨c, y, m, s⟩, r⟩)
    ∧ Gen.datesSizeHint ⟨⟨c, y, m, s⟩, r⟩ = (r.len, some r.len) := by
  obtain ⟨B⟩ := hc.bounded
  have hg := Gen.WF.gapOrdered hc
  refine ⟨?_, ?_, rfl⟩
  · rw [Gen.datesNext_eq _ hg]; simp only [Dates.next]
    rcases h : r.next with ⟨_ | n, r'⟩
    · rfl
    · simp only []; rw [B.nthDate_eq y hy m s hs n (hn n (Or.inl (by rw [h])))]; rfl
  · rw [Gen.datesNextBack_eq _ hg]; simp only [Dates.nextBack]
    rcases h : r.nextBack with ⟨_ | n, r'⟩
    · rfl
    · simp only []; rw [B.nthDate_eq y hy m s hs n (hn n (Or.inr (by rw [h])))]; rfl

/-- one generated step of `MonthIter`: it faults (the `.expect`) exactly when the number the range
yields is not a month number — which `months_refines` / `monthIter_no_panic` exclude for `1..=12` -/
theorem generated_month_iter_step (r : RangeIncl) :
    Gen.monthIterNext r = (match (MonthIter.next ⟨r⟩) with
      | (none, it) => some (none, it.inner)
      | (some none, _) => none
      | (some (some mo), it) => some (some mo, it.inner))
    ∧ Gen.monthIterNextBack r = (match (MonthIter.nextBack ⟨r⟩) with
      | (none, it) => some (none, it.inner)
      | (some none, _) => none
      | (some (some mo), it) => some (some mo, it.inner))
    ∧ Gen.monthIterNew = MonthIter.new.inner := by
  refine ⟨?_, ?_, rfl⟩
  · rw [Gen.monthIterNext_eq]; simp only [MonthIter.next]
    rcases h : r.next with ⟨_ | n, r'⟩
    · rfl
    · simp only []; cases Month.ofInt? n <;> rfl
  · rw [Gen.monthIterNextBack_eq]; simp only [MonthIter.nextBack]
    rcases h : r.nextBack with ⟨_ | n, r'⟩
    · rfl
    · simp only []; cases Month.ofInt? n <;> rfl

/-- **`Dates::new` as generated from iter.rs** — its two trimming `while` loops become functions
recursive in a fuel argument — builds exactly the iterator `dates_refines` is about, for every shape
`month_shape` returns in every calendar a caller can hold (and so does `MonthShape::dates`) -/
theorem generated_dates_new (c : Calendar) (hc : WF c) (y : Int) (hy : InI32 y) (m : Month) (s : IShape)
    (hs : c.monthIShape y m = some s) :
    Gen.datesNew ⟨c, y, m, s⟩ = some (Dates.new ⟨c, y, m, s⟩)
    ∧ Gen.monthShapeDates ⟨c, y, m, s⟩ = some (Dates.new ⟨c, y, m, s⟩)
    ∧ Gen.daysNew ⟨c, y, m, s⟩ = some (Days.new ⟨c, y, m, s⟩) := by
  obtain ⟨B⟩ := hc.bounded
  have hg := Gen.WF.gapOrdered hc
  have hf := B.fits hs
  have hlen : Gen.monthShapeLen ⟨c, y, m, s⟩ = some (MonthShape.len ⟨c, y, m, s⟩) := by
    rw [Gen.monthShapeLen_eq]; exact Chk.len_eq s hf
  have H : ∀ n : Int, 0 ≤ n → n ≤ 4294967295 →
      Gen.monthShapeNthDate ⟨c, y, m, s⟩ n = some (MonthShape.nthDate ⟨c, y, m, s⟩ n) := by
    intro n h0 h1
    rw [Gen.monthShapeNthDate_eq _ hg]
    exact B.nthDate_eq y hy m s hs n ⟨h0, h1⟩
  have hl31 := (B.fits hs).len_le
  have hl0 : 0 ≤ s.len := s.len_nonneg hf.1.valid
  have h := Gen.datesNew_eq ⟨c, y, m, s⟩ H hlen hl0 (by simp only [MonthShape.len]; omega)
  refine ⟨h, ?_, ?_⟩
  · simp only [Gen.monthShapeDates, h]
  · rw [Gen.daysNew_eq]; simp only [Chk.len_eq s hf, Option.map, Days.new, MonthShape.len]

end JV.C17
