/-
C10 — Stepping forward or backward moves exactly one day and stops only at the limits.

`succ` / `pred` do not recompute the date from the day number: they bump the day-of-year,
fall into the next (previous) year that has dates when the year is over, and re-derive
month and day.  The theorems say the result is nevertheless exactly `at_jdn (jdn ± 1)`,
for every calendar a caller can hold (`WF`) and every 32-bit day number.
-/
import JulianVerif.Model.Iter
import JulianVerif.Lemmas.ShapedInst
import JulianVerif.Props.C05
namespace JV.C10

/-- **the successor of a date is the calendar's date for the next day number** — across
month ends, year ends, the reformation gap, skipped months and skipped years — **and is
absent only at day number 2^31-1** -/
theorem succ_spec (c : Calendar) (hc : WF c) (j : Int) (hj : InI32 j) (d : Date)
    (h : c.atJdn? j = some d) :
    d.succ = if j = 2147483647 then none else c.atJdn? (j + 1) := by
  obtain ⟨T⟩ := hc.tiling
  exact T.succ_spec j hj d h

/-- **the predecessor is the date of the previous day number, absent only at -2^31** -/
theorem pred_spec (c : Calendar) (hc : WF c) (j : Int) (hj : InI32 j) (d : Date)
    (h : c.atJdn? j = some d) :
    d.pred = if j = -2147483648 then none else c.atJdn? (j - 1) := by
  obtain ⟨T⟩ := hc.tiling
  exact T.pred_spec j hj d h

/-- the state of an open-ended iterator after `n` calls of `next` -/
def iterate (step : Option Date → Option Date × Option Date) : Nat → Option Date → Option Date
  | 0, st => st
  | n + 1, st => iterate step n (step st).2

/-- the date of day `j` when `j` is a 32-bit day number, nothing otherwise -/
def dateAt (c : Calendar) (j : Int) : Option Date :=
  if -2147483648 ≤ j ∧ j ≤ 2147483647 then c.atJdn? j else none

/-- `later_nth` and `earlier_nth` in one: `e = ±1` is the direction of the walk, `hstep` what one
`next` does to a date, `hnone` that an iterator that is over stays over -/
theorem iterate_dateAt (c : Calendar) (hc : WF c) (step : Option Date → Option Date × Option Date)
    (e : Int) (he : e = 1 ∨ e = -1) (hnone : (step none).2 = none)
    (hstep : ∀ j d, InI32 j → c.atJdn? j = some d → (step (some d)).2 = dateAt c (j + e))
    (j : Int) (hj : InI32 j) (d : Date) (h : c.atJdn? j = some d) (n : Nat) :
    iterate step n (some d) = dateAt c (j + e * n) := by
  induction n generalizing j d with
  | zero => simp only [iterate, dateAt, Int.natCast_zero, Int.mul_zero, Int.add_zero, if_pos hj, h]
  | succ n ih =>
    have e1 : j + e * ((n + 1 : Nat) : Int) = j + e + e * n := by rw [Int.natCast_succ, Int.mul_add]; omega
    rw [iterate, hstep j d hj h, e1]
    by_cases hj2 : InI32 (j + e)
    · obtain ⟨d2, hd2, _⟩ := atJdn_total c hc (j + e)
      rw [dateAt, if_pos hj2, hd2, ih (j + e) hj2 d2 hd2]
    · have hend : ∀ k : Nat, iterate step k none = none := by
        intro k; induction k with
        | zero => rfl
        | succ k ihk => rw [iterate, hnone, ihk]
      -- one step out of the range in direction `e`, hence out of it after `n` more
      have hout : ¬ InI32 (j + e + e * n) := by
        rcases he with rfl | rfl <;> omega
      rw [dateAt, if_neg hj2, hend, dateAt, if_neg hout]

/-- **`later` yields the consecutive following days, ends exactly at the range limit and
stays ended**: after `n` calls its state — which is also the item just returned — is the
date of day `j + n`, or nothing once `j + n` exceeds 2^31-1 -/
theorem later_nth (c : Calendar) (hc : WF c) (j : Int) (hj : InI32 j) (d : Date)
    (h : c.atJdn? j = some d) (n : Nat) :
    iterate laterNext n (some d) = dateAt c (j + n) := by
  have hstep : ∀ j d, InI32 j → c.atJdn? j = some d → (laterNext (some d)).2 = dateAt c (j + 1) := by
    intro j d hj h
    show d.succ = _
    rw [succ_spec c hc j hj d h, dateAt]
    by_cases hm : j = 2147483647
    · rw [if_pos hm, if_neg (by omega)]
    · rw [if_neg hm, if_pos (by omega)]
  have := iterate_dateAt c hc laterNext 1 (Or.inl rfl) rfl hstep j hj d h n
  rwa [Int.one_mul] at this

/-- `earlier`, symmetrically -/
theorem earlier_nth (c : Calendar) (hc : WF c) (j : Int) (hj : InI32 j) (d : Date)
    (h : c.atJdn? j = some d) (n : Nat) :
    iterate earlierNext n (some d) = dateAt c (j - n) := by
  have hstep : ∀ j d, InI32 j → c.atJdn? j = some d → (earlierNext (some d)).2 = dateAt c (j + -1) := by
    intro j d hj h
    show d.pred = _
    rw [pred_spec c hc j hj d h, dateAt, ← Int.sub_eq_add_neg]
    by_cases hm : j = -2147483648
    · rw [if_pos hm, if_neg (by omega)]
    · rw [if_neg hm, if_pos (by omega)]
  have := iterate_dateAt c hc earlierNext (-1) (Or.inr rfl) rfl hstep j hj d h n
  rwa [Int.neg_one_mul, ← Int.sub_eq_add_neg] at this

/-- `and_later` / `and_earlier` include the starting date, then behave like `later` /
`earlier`; `later` / `earlier` exclude it -/
theorem start_inclusion (d : Date) :
    (andLaterNext (some d)) = (some d, d.succ) ∧ (andEarlierNext (some d)) = (some d, d.pred)
    ∧ (laterNext (some d)).1 = d.succ ∧ (earlierNext (some d)).1 = d.pred :=
  ⟨rfl, rfl, rfl, rfl⟩

/-- once ended, the four iterators stay ended -/
theorem fused :
    laterNext none = (none, none) ∧ earlierNext none = (none, none)
    ∧ andLaterNext none = (none, none) ∧ andEarlierNext none = (none, none) :=
  ⟨rfl, rfl, rfl, rfl⟩

/-- non-vacuity: the step defect D1 is about: Dec 30 → Dec 31 → Jan 1 in
the calendar reforming on day 2299664 -/
example : ∃ c, Calendar.mkReforming 2299664 = .ok c
    ∧ (Date.mk c 1584 355 .december 30 30 2299968).succ = some ⟨c, 1584, 356, .december, 31, 31, 2299969⟩
    ∧ (Date.mk c 1584 356 .december 31 31 2299969).succ = some ⟨c, 1585, 1, .january, 1, 1, 2299970⟩ :=
  ⟨_, rfl, rfl, rfl⟩

/-- one generated step of `later()` / `earlier()` / `and_later()` / `and_earlier()` is the model's
step (Model/Iter.lean), for every date the library hands out -/
theorem generated_open_ended_steps (d : Date) (hc : WF d.calendar) (hj : InI32 d.jdn)
    (hcan : d.calendar.atJdn? d.jdn = some d) :
    Gen.laterNext (some d) = some (laterNext (some d))
    ∧ Gen.earlierNext (some d) = some (earlierNext (some d))
    ∧ Gen.andLaterNext (some d) = some (andLaterNext (some d))
    ∧ Gen.andEarlierNext (some d) = some (andEarlierNext (some d))
    ∧ Gen.laterNext none = some (laterNext none) ∧ Gen.andLaterNext none = some (andLaterNext none)
    ∧ Gen.earlierNext none = some (earlierNext none) ∧ Gen.andEarlierNext none = some (andEarlierNext none)
    ∧ Gen.dateLater d = some d ∧ Gen.dateAndLater d = some d
    ∧ Gen.dateEarlier d = some d ∧ Gen.dateAndEarlier d = some d := by
  have hg := Gen.WF.gapOrdered hc
  obtain ⟨h1, h2, _, _⟩ := C05.succ_pred_no_panic d hc hj hcan
  have hgs : ∀ d', some d = some d' → Gen.GapOrdered d'.calendar := by
    intro d' e; cases e; exact hg
  refine ⟨?_, ?_, ?_, ?_, rfl, rfl, rfl, rfl, rfl, rfl, rfl, rfl⟩
  · rw [Gen.laterNext_eq _ hgs]; simp only [h1, laterNext, Option.bind, Option.map]
  · rw [Gen.earlierNext_eq _ hgs]; simp only [h2, earlierNext, Option.bind, Option.map]
  · rw [Gen.andLaterNext_eq _ hgs]; simp only [h1, andLaterNext, Option.map]
  · rw [Gen.andEarlierNext_eq _ hgs]; simp only [h2, andEarlierNext, Option.map]

end JV.C10
