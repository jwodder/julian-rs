/-
C05 — No library call panics or overflows, whatever the arguments.

`Chk.*` (Model/Checked.lean) is the library's arithmetic once more with every i32 / u32 /
i64 operation, every `as` cast, every `unreachable!()`, `.expect()` and `debug_assert!`
made explicit: such a function returns `none` exactly when the Rust code, built with
overflow checks, would panic.  Every theorem below has the form

    Chk.f args = some (f args)

for all arguments within the parameter types (`InI32`, `InU32`, `InI64`) and every calendar
a caller can hold (`WF c`): the checked function does not fault, and its answer is the one
the unbounded model — the one all other properties are proved about — computes, so no answer
is the product of wrapped arithmetic.  `MonthShape` and `Date` arguments range over the
values the API hands out (shapes returned by `month_shape`, canonical dates — C06).

Not covered here: the chrono/time conversions (C16 models the foreign crates abstractly),
`RangeInclusive`'s own stepping (core; C17 proves `MonthIter` never reaches its `.expect`),
`str::parse` and formatting internals (std).
-/
import JulianVerif.Lemmas.CheckedMisc
import JulianVerif.Lemmas.Deque
import JulianVerif.Lemmas.Time
import JulianVerif.Lemmas.CheckedKernels
import JulianVerif.Lemmas.GenLibWF
import JulianVerif.Lemmas.GenKernels
namespace JV.C05
open Spec

/-! ### the conversion kernels of inner.rs

The `Chk.*` functions of this section (and `Chk.gapKindForDates`, `Chk.cmpIntRange`,
`Chk.cmpYmRange`) are not written by hand: Model/CheckedInner.lean is generated from inner.rs
by bin/srcgen and regenerated and compared on every run (DESIGN.md 0.8). -/

/-- `jdn2julian` / `jdn2gregorian`: no i32 operation overflows for any i32 day number -/
theorem decompose_no_overflow (j : Int) (hj : InI32 j) :
    Chk.jdn2julian j = some (jdn2julian j) ∧ Chk.jdn2gregorian j = some (jdn2gregorian j) :=
  ⟨Chk.jdn2julian_eq j hj, Chk.jdn2gregorian_eq j hj⟩

/-- `julian2jdn` / `gregorian2jdn`: the explicit guards come first and are tight enough that
nothing after them overflows, for any i32 year and any day-of-year a caller can pass on -/
theorem compose_no_overflow (y o : Int) (hy : InI32 y) (h1 : 1 ≤ o) (h2 : o ≤ 366) :
    Chk.julian2jdn y o = some (julian2jdn y o) ∧ Chk.gregorian2jdn y o = some (gregorian2jdn y o) :=
  ⟨Chk.julian2jdn_eq y o h1 (by omega), Chk.gregorian2jdn_eq y o hy h1 h2⟩

/-- the guards are exact: a returned day number is always a 32-bit value -/
theorem conversions_in_range (ρ : Rule) (y o j : Int) (hy : InI32 y) (h1 : 1 ≤ o) (h2 : o ≤ 366)
    (h : (ruleCal ρ).getJdn y o = some j) : InI32 j := by
  -- `hy` is not needed (`ruleCal_getJdn` holds for every year)
  rw [ruleCal_getJdn ρ y o h1 h2] at h
  split at h
  · rename_i hc; cases h; exact hc
  · cases h

/-- **`Calendar::reforming` never overflows and never panics, for every i32 argument** -/
theorem reforming_no_panic (r : Int) (hr : InI32 r) :
    Chk.mkReforming r = some (Calendar.mkReforming r) ∧ Calendar.mkReforming r ≠ .error .fault :=
  ⟨Chk.mkReforming_eq r hr, mkReforming_ne_fault r⟩

/-! ### conversions on every calendar a caller can hold -/

/-- **`at_jdn` never overflows and never reaches its `unreachable!()`** -/
theorem atJdn_no_panic (c : Calendar) (hc : WF c) (j : Int) (hj : InI32 j) :
    ∃ d, Chk.atJdn c j = some d ∧ c.atJdn? j = some d := by
  obtain ⟨B⟩ := hc.bounded
  obtain ⟨d, hd, _⟩ := atJdn_total c hc j
  exact ⟨d, by rw [B.atJdn_eq j hj, hd], hd⟩

/-- **`at_ymd` returns normally for every i32 year, month and u32 day** -/
theorem atYmd_no_panic (c : Calendar) (hc : WF c) (y : Int) (hy : InI32 y) (m : Month) (d : Int)
    (hd : InU32 d) : Chk.atYmd c y m d = some (c.atYmd y m d) := by
  obtain ⟨B⟩ := hc.bounded
  exact B.atYmd_eq y hy m d hd

/-- **`at_ordinal_date` returns normally for every i32 year and u32 day-of-year** -/
theorem atOrdinalDate_no_panic (c : Calendar) (hc : WF c) (y : Int) (hy : InI32 y) (o : Int)
    (ho : InU32 o) :
    Chk.atOrdinalDate c y o = some (c.atOrdinalDate y o)
    ∧ c.ordinal2ymddo y o ≠ .error .fault := by
  obtain ⟨B⟩ := hc.bounded
  exact ⟨B.atOrdinalDate_eq y hy o ho, B.ordinal2ymddo_no_fault y o⟩

/-- `year_length` (its `unreachable!()` and `debug_assert!`) and `month_shape`, every year -/
theorem year_queries_no_panic (c : Calendar) (hc : WF c) (y : Int) (m : Month) :
    Chk.yearLength c y = some (c.yearLength y)
    ∧ Chk.monthIShape c y m = some (c.monthIShape y m)
    ∧ 0 ≤ c.yearLength y ∧ c.yearLength y ≤ 366 := by
  obtain ⟨B⟩ := hc.bounded
  exact ⟨B.yearLength_eq y, B.monthIShape_eq y m, B.yearLength_nonneg y, B.ylen_le y⟩

/-- the boundary-date accessors -/
theorem boundary_dates_no_panic (c : Calendar) (hc : WF c) :
    Chk.lastJulianDate c = some c.lastJulianDate
    ∧ Chk.firstGregorianDate c = some c.firstGregorianDate := by
  rcases hc.cases with rfl | rfl | ⟨rf, rfl, _, hR1⟩
  · exact ⟨rfl, rfl⟩
  · exact ⟨rfl, rfl⟩
  · -- `reformation - 1` fits i32 because `Calendar::reforming` checked it; `pre_reform.day + 1` is at
    -- most 32
    have := rf.validP
    have := monthLen_bounds (leap .julian rf.yP) rf.mP
    refine ⟨?_, ?_⟩
    · simp only [Reform.cal, Chk.lastJulianDate, Calendar.lastJulianDate, bind, pure,
        Chk.i32_eq_some hR1]; rfl
    · simp only [Reform.cal, Chk.firstGregorianDate, Calendar.firstGregorianDate, bind, pure]
      split
      · rw [Chk.u32_eq_some (by simp only [mkGap]; omega)]; rfl
      · rfl

/-! ### `MonthShape` methods, for every shape `month_shape` returns and every u32 argument -/

theorem shape_methods_no_panic (c : Calendar) (hc : WF c) (y : Int) (m : Month) (s : IShape)
    (hs : c.monthIShape y m = some s) (n : Int) (hn : InU32 n) :
    Chk.len s = some s.len
    ∧ Chk.nthDay s n = some (s.nthDay n)
    ∧ Chk.dayOrdinalErr s y m n = some (s.dayOrdinalErr y m n)
    ∧ Chk.gap s = some s.gap := by
  obtain ⟨B⟩ := hc.bounded
  have hf := B.fits hs
  exact ⟨Chk.len_eq s hf, Chk.nthDay_eq s hf n hn, Chk.dayOrdinalErr_eq s hf y m n hn,
    Chk.gap_eq s hf⟩

/-- `nth_date` (defect D5: months beyond the day-number range) and, before fix F4,
`nth_day(u32::MAX)` on a gapped month -/
theorem nthDate_no_panic (c : Calendar) (hc : WF c) (y : Int) (hy : InI32 y) (m : Month)
    (s : IShape) (hs : c.monthIShape y m = some s) (n : Int) (hn : InU32 n) :
    Chk.nthDate ⟨c, y, m, s⟩ n = some (MonthShape.nthDate ⟨c, y, m, s⟩ n) := by
  obtain ⟨B⟩ := hc.bounded
  exact B.nthDate_eq y hy m s hs n hn

/-! ### `Date` methods, for every date the library hands out -/

theorem succ_pred_no_panic (d : Date) (hc : WF d.calendar) (hj : InI32 d.jdn)
    (hcan : d.calendar.atJdn? d.jdn = some d) :
    Chk.succ d = some d.succ ∧ Chk.pred d = some d.pred
    ∧ Chk.ordinal0 d = some d.ordinal0 ∧ Chk.dayOrdinal0 d = some d.dayOrdinal0 := by
  obtain ⟨B⟩ := hc.bounded
  obtain ⟨_, ho1, ho2, hk⟩ := B.field_ranges hcan
  have hy := hc.yrange hj hcan
  exact ⟨B.succ_eq d hcan (by omega), B.pred_eq d hcan (by omega),
    Chk.u32_eq_some (by omega), Chk.u32_eq_some (by omega)⟩

/-- the two trimming loops of `Dates::new` (fix F5; seeded change C05-a dropped the
`start <= end` guard of the second one): `start += 1` and `end -= 1` never leave u32, for any
month shape whatsoever -/
theorem dates_new_no_overflow (s : MonthShape) (hl : s.len ≤ 4294967294) :
    Chk.trimStart s (s.len.toNat + 1) 1 s.len = some (Dates.trimStart s (s.len.toNat + 1) 1 s.len)
    ∧ Chk.trimEnd s (s.len.toNat + 1) (Dates.trimStart s (s.len.toNat + 1) 1 s.len) s.len
        = some (Dates.trimEnd s (s.len.toNat + 1) (Dates.trimStart s (s.len.toNat + 1) 1 s.len) s.len) := by
  refine ⟨Chk.trimStart_eq s _ 1 s.len (by omega) hl, ?_⟩
  have := (Dates.trimStart_spec s (s.len.toNat + 1) 1 s.len).1
  exact Chk.trimEnd_eq s _ _ s.len (by omega) (by omega)

/-- `Weekday::for_jdn` never reaches its `unreachable!()` -/
theorem weekday_no_panic (j : Int) :
    Chk.weekdayForJdn j = Weekday.forJdn? j ∧ Weekday.forJdn? j ≠ none := by
  obtain ⟨w, h, _⟩ := Weekday.forJdn?_some j
  refine ⟨?_, by rw [h]; nofun⟩
  simp (disch := omega) only [Chk.weekdayForJdn, Weekday.forJdn?, chk]

/-- `unix2jdn` for every i64, `jdn2unix` for every i32, `system2jdn` for every duration -/
theorem timestamps_no_panic :
    (∀ t, InI64 t → Chk.unix2jdn t = some (unix2jdn t))
    ∧ (∀ j, InI32 j → Chk.jdn2unix j = some (jdn2unix j))
    ∧ (∀ before secs nanos, 0 ≤ secs → Chk.system2jdn before secs nanos = some (system2jdn before secs nanos)) :=
  ⟨Chk.unix2jdn_eq, fun j hj => by simp (disch := omega) only [Chk.jdn2unix, jdn2unix, chk],
    Chk.system2jdn_eq⟩

/-- the narrowing casts in `unix2jdn` happen only after the range check -/
theorem unix2jdn_in_range (t j s : Int) (h : unix2jdn t = some (j, s)) :
    InI32 j ∧ 0 ≤ s ∧ s < 86400 := by
  obtain ⟨_, rfl, hj⟩ := unix2jdn_eq_some h
  exact ⟨hj, by omega, by omega⟩

/-- the checked layer is not vacuous: it computes on concrete inputs (the extreme day
numbers, a reforming calendar), and it does fault where the arithmetic really overflows —
`gregorian2jdn` called outside its callers' contract (day-of-year 600 of year 5874897, which
passes the guard) overflows i32 -/
theorem checked_layer_examples :
    Chk.gregorian2jdn 5874898 154 = some (some 2147483647)
    ∧ Chk.jdn2gregorian (-2147483648) = some (-5884323, 135)
    ∧ Chk.atJdn Calendar.reform1582 2299161 = Calendar.reform1582.atJdn? 2299161
    ∧ Chk.gregorian2jdn 5874897 600 = none
    ∧ Chk.nthDay (.gapped 5 14 31) 4294967295 = some none := by
  refine ⟨rfl, rfl, rfl, rfl, rfl⟩

/-- the two range comparisons of inner.rs (`cmp_int_range`, `cmp_ym_range`, generated from the
source with their `debug_assert!`s explicit): no assertion fires when the lower bound is not
above the upper one — which is what `ReformGap::cmp_year` / `cmp_year_month` pass, the last
Julian label being below the first Gregorian one (C03) — and the results are the pure model's -/
theorem range_comparisons_checked (v l u : Int) (h : l ≤ u) (y : Int) (m : Month) (ly : Int) (lm : Month)
    (uy : Int) (um : Month) (h' : ymKey ly lm ≤ ymKey uy um) :
    Chk.cmpIntRange v l u = some (cmpIntRange v l u)
    ∧ Chk.cmpYmRange (y, m) (ly, lm) (uy, um) = some (cmpYmRange y m ly lm uy um) :=
  ⟨Chk.cmpIntRange_eq v h, Chk.cmpYmRange_eq y m h'⟩

/-! ### the same statements for the definitions GENERATED from lib.rs

`Gen.*` (Model/GenLib.lean) is not written by hand: bin/libgen translates the `const fn`s of
lib.rs (and the small helpers of inner.rs) construct by construct — every `+ - *` and narrowing
cast a checked operation, every `unreachable!()` / `debug_assert!` a fault, early returns,
`let mut`, guarded `match` arms and the unrolled `for_month!` loops included — and `bin/check`
regenerates the file from /repo's working tree on every run and compares it with the text these
theorems are about (DESIGN.md 0.9).  Lemmas/GenLib.lean proves each generated function equal to
its hand-written counterpart; the theorems below chain that with the results above, so for these
functions no hand-copied link remains between the Rust source and the unbounded model. -/

/-- the generated `Calendar::reforming` is fault-free and is the model's, for every i32 argument -/
theorem generated_reforming (r : Int) (hr : InI32 r) :
    Gen.calendarReforming r = some (Calendar.mkReforming r) := by
  rw [Gen.calendarReforming_eq]; exact (reforming_no_panic r hr).1

/-- the generated year and month queries, for every calendar a caller can hold and every year -/
theorem generated_year_queries (c : Calendar) (hc : WF c) (y : Int) (m : Month) :
    Gen.calendarYearKind c y = some (c.yearKind y)
    ∧ Gen.calendarYearLength c y = some (c.yearLength y)
    ∧ Gen.calendarMonthShape c y m = some (c.monthShape y m) := by
  have hg := Gen.WF.gapOrdered hc
  obtain ⟨h1, h2, _, _⟩ := year_queries_no_panic c hc y m
  refine ⟨Gen.calendarYearKind_eq c hg y, ?_, ?_⟩
  · rw [Gen.calendarYearLength_eq c hg, h1]
  · rw [Gen.calendarMonthShape_eq c hg, h2]; rfl

/-- the generated `at_jdn`, `at_ymd`, `at_ordinal_date` -/
theorem generated_constructors (c : Calendar) (hc : WF c) :
    (∀ j, InI32 j → Gen.calendarAtJdn c j = c.atJdn? j ∧ c.atJdn? j ≠ none)
    ∧ (∀ y m d, InI32 y → InU32 d → Gen.calendarAtYmd c y m d = some (c.atYmd y m d))
    ∧ (∀ y o, InI32 y → InU32 o → Gen.calendarAtOrdinalDate c y o = some (c.atOrdinalDate y o)) := by
  have hg := Gen.WF.gapOrdered hc
  refine ⟨?_, ?_, ?_⟩
  · intro j hj
    obtain ⟨d, h1, h2⟩ := atJdn_no_panic c hc j hj
    rw [Gen.calendarAtJdn_eq c hg, h1, h2]; simp
  · intro y m d hy hd
    rw [Gen.calendarAtYmd_eq c hg]; exact atYmd_no_panic c hc y hy m d hd
  · intro y o hy ho
    rw [Gen.calendarAtOrdinalDate_eq c hg]; exact (atOrdinalDate_no_panic c hc y hy o ho).1

/-- the generated boundary accessors -/
theorem generated_boundary_dates (c : Calendar) (hc : WF c) :
    Gen.calendarLastJulianDate c = some c.lastJulianDate
    ∧ Gen.calendarFirstGregorianDate c = some c.firstGregorianDate := by
  rw [Gen.calendarLastJulianDate_eq, Gen.calendarFirstGregorianDate_eq]
  exact boundary_dates_no_panic c hc

/-- the generated `MonthShape` methods, for every shape `month_shape` returns -/
theorem generated_shape_methods (c : Calendar) (hc : WF c) (y : Int) (hy : InI32 y) (m : Month) (s : IShape)
    (hs : c.monthIShape y m = some s) (n : Int) (hn : InU32 n) :
    Gen.monthShapeLen ⟨c, y, m, s⟩ = some s.len
    ∧ Gen.monthShapeNthDay ⟨c, y, m, s⟩ n = some (s.nthDay n)
    ∧ Gen.monthShapeDayOrdinalErr ⟨c, y, m, s⟩ n = some (s.dayOrdinalErr y m n)
    ∧ Gen.monthShapeGap ⟨c, y, m, s⟩ = some (s.gap.map fun p => RangeIncl.new p.1 p.2)
    ∧ Gen.monthShapeNthDate ⟨c, y, m, s⟩ n = some (MonthShape.nthDate ⟨c, y, m, s⟩ n)
    ∧ Gen.monthShapeContains ⟨c, y, m, s⟩ n = s.contains n
    ∧ Gen.monthShapeFirstDay ⟨c, y, m, s⟩ = s.firstDay ∧ Gen.monthShapeLastDay ⟨c, y, m, s⟩ = s.lastDay
    ∧ Gen.monthShapeKind ⟨c, y, m, s⟩ = s.kind := by
  obtain ⟨h1, h2, h3, h4⟩ := shape_methods_no_panic c hc y m s hs n hn
  refine ⟨?_, ?_, ?_, ?_, ?_, ?_, ?_, ?_, ?_⟩
  · rw [Gen.monthShapeLen_eq]; exact h1
  · rw [Gen.monthShapeNthDay_eq]; exact h2
  · rw [Gen.monthShapeDayOrdinalErr_eq]; exact h3
  · rw [Gen.monthShapeGap_eq, h4]; rfl
  · rw [Gen.monthShapeNthDate_eq _ (Gen.WF.gapOrdered hc)]; exact nthDate_no_panic c hc y hy m s hs n hn
  · exact Gen.monthShapeContains_eq _ n
  · exact Gen.monthShapeFirstDay_eq _
  · exact Gen.monthShapeLastDay_eq _
  · exact Gen.monthShapeKind_eq _

/-- the generated `Date` methods, for every date the library hands out -/
theorem generated_date_methods (d : Date) (hc : WF d.calendar) (hj : InI32 d.jdn)
    (hcan : d.calendar.atJdn? d.jdn = some d) :
    Gen.dateSucc d = some d.succ ∧ Gen.datePred d = some d.pred
    ∧ Gen.dateOrdinal0 d = some d.ordinal0 ∧ Gen.dateDayOrdinal0 d = some d.dayOrdinal0
    ∧ Gen.dateIsJulian d = d.isJulian ∧ Gen.dateIsGregorian d = d.isGregorian
    ∧ Gen.dateWeekday d = Weekday.forJdn? d.jdn := by
  have hg := Gen.WF.gapOrdered hc
  obtain ⟨h1, h2, h3, h4⟩ := succ_pred_no_panic d hc hj hcan
  refine ⟨?_, ?_, ?_, ?_, Gen.dateIsJulian_eq d, Gen.dateIsGregorian_eq d, ?_⟩
  · rw [Gen.dateSucc_eq d hg]; exact h1
  · rw [Gen.datePred_eq d hg]; exact h2
  · rw [Gen.dateOrdinal0_eq]; exact h3
  · rw [Gen.dateDayOrdinal0_eq]; exact h4
  · rw [Gen.dateWeekday_eq]; exact (weekday_no_panic d.jdn).1

/-- the generated `convert_to` is `at_jdn` of the target calendar -/
theorem generated_convert_to (d : Date) (c : Calendar) (hc : WF c) (hj : InI32 d.jdn) :
    Gen.dateConvertTo d c = c.atJdn? d.jdn := by
  obtain ⟨d', h1, h2⟩ := atJdn_no_panic c hc d.jdn hj
  rw [Gen.dateConvertTo_eq d c (Gen.WF.gapOrdered hc), h1, h2]

/-- the generated timestamp functions and weekday -/
theorem generated_timestamps :
    (∀ t, InI64 t → Gen.unix2jdn t = some (unix2jdn t))
    ∧ (∀ j, InI32 j → Gen.jdn2unix j = some (jdn2unix j))
    ∧ (∀ j, Gen.weekdayForJdn j = Weekday.forJdn? j) := by
  refine ⟨?_, ?_, ?_⟩
  · intro t ht; rw [Gen.unix2jdn_eq t ht]; exact timestamps_no_panic.1 t ht
  · intro j hj; rw [Gen.jdn2unix_eq]; exact timestamps_no_panic.2.1 j hj
  · intro j; rw [Gen.weekdayForJdn_eq]; exact (weekday_no_panic j).1

/-- the helpers that cannot fault are the model's functions, and the built-in 1582 constant is
the model's literal -/
theorem generated_helpers :
    Gen.isJulianLeapYear = isJulianLeapYear ∧ Gen.isGregorianLeapYear = isGregorianLeapYear
    ∧ (∀ a b, Gen.monthLt a b = a.lt b) ∧ (∀ a b, Gen.monthLe a b = a.le b)
    ∧ (∀ a b, Gen.monthEq a b = (a == b)) ∧ (∀ m, Gen.monthNumber m = m.number)
    ∧ (∀ m, Gen.monthPred m = m.pred) ∧ (∀ m, Gen.monthSucc m = m.succ)
    ∧ (∀ w, Gen.weekdayNumber w = w.number) ∧ (∀ w, Gen.weekdayPred w = w.pred)
    ∧ (∀ w, Gen.weekdaySucc w = w.succ)
    ∧ (∀ c, Gen.calendarGap c = c.gap) ∧ (∀ c, Gen.calendarReformation c = c.reformation)
    ∧ (∀ c, Gen.calendarIsReforming c = c.isReforming) ∧ (∀ c, Gen.calendarIsProleptic c = c.isProleptic)
    ∧ Gen.calendarREFORM1582 = Calendar.reform1582 :=
  ⟨Gen.isJulianLeapYear_eq, Gen.isGregorianLeapYear_eq, Gen.monthLt_eq, Gen.monthLe_eq, Gen.monthEq_eq,
    Gen.monthNumber_eq, Gen.monthPred_eq, Gen.monthSucc_eq, Gen.weekdayNumber_eq, Gen.weekdayPred_eq,
    Gen.weekdaySucc_eq, Gen.calendarGap_eq, Gen.calendarReformation_eq, Gen.calendarIsReforming_eq,
    Gen.calendarIsProleptic_eq, Gen.calendarREFORM1582_eq⟩

/-- the nine inner.rs kernels as translated by the second translator (bin/libgen, every `/`, `%`, `+`, `-`, `*`
and `as` a checked step) are, for all arguments, the functions the first translator (bin/srcgen) produced
and the theorems above are about: two independently written readings of the same source, proved equal -/
theorem generated_kernels_agree :
    (∀ d, Gen.kDecomposeJulian d = Chk.decomposeJulian d)
    ∧ (∀ y o, Gen.kComposeJulian y o = Chk.composeJulian y o)
    ∧ (∀ j, Gen.kJdn2julian j = Chk.jdn2julian j) ∧ (∀ y o, Gen.kJulian2jdn y o = Chk.julian2jdn y o)
    ∧ (∀ j, Gen.kJdn2gregorian j = Chk.jdn2gregorian j) ∧ (∀ y o, Gen.kGregorian2jdn y o = Chk.gregorian2jdn y o)
    ∧ (∀ v l u, Gen.kCmpIntRange v l u = Chk.cmpIntRange v l u)
    ∧ (∀ a b c, Gen.kCmpYmRange a b c = Chk.cmpYmRange a b c)
    ∧ (∀ a m b n, Gen.kGapKindForDates a m b n = Chk.gapKindForDates a m b n) :=
  ⟨Gen.kDecomposeJulian_eq, Gen.kComposeJulian_eq, Gen.kJdn2julian_eq, Gen.kJulian2jdn_eq,
    Gen.kJdn2gregorian_eq, Gen.kGregorian2jdn_eq, Gen.kCmpIntRange_eq, Gen.kCmpYmRange_eq,
    Gen.kGapKindForDates_eq⟩

end JV.C05
