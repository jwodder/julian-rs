/-
Spec/Basic.lean — the specification every theorem refers to (DESIGN.md §4).
Short on purpose: leap rules, year tiling with anchors, the month table, and what it
means for a day number to carry a (year, month, day) label.  `/` and `%` are Euclidean.
-/
import JulianVerif.Model.Basic
namespace JV
namespace Spec

inductive Rule where
  | julian | gregorian
  deriving DecidableEq, Repr, Inhabited

/-- astronomical year numbering: 0 and -4 are leap -/
def leap : Rule → Int → Bool
  | .julian, y => y % 4 == 0
  | .gregorian, y => y % 4 == 0 && (y % 100 != 0 || y % 400 == 0)

def yearLen (ρ : Rule) (y : Int) : Int := if leap ρ y then 366 else 365

def monthLen (lp : Bool) : Month → Int
  | .january => 31 | .february => if lp then 29 else 28 | .march => 31 | .april => 30
  | .may => 31 | .june => 30 | .july => 31 | .august => 31 | .september => 30
  | .october => 31 | .november => 30 | .december => 31

/-- days of the year before the first of month `m` -/
def daysBefore (lp : Bool) : Month → Int
  | .january => 0 | .february => 31
  | .march => if lp then 60 else 59 | .april => if lp then 91 else 90
  | .may => if lp then 121 else 120 | .june => if lp then 152 else 151
  | .july => if lp then 182 else 181 | .august => if lp then 213 else 212
  | .september => if lp then 244 else 243 | .october => if lp then 274 else 273
  | .november => if lp then 305 else 304 | .december => if lp then 335 else 334

/-- Julian day number of January 1 of year `y`.  Its meaning is fixed by
`yearStart_succ` (years tile the line) and the anchors below. -/
def yearStart : Rule → Int → Int
  | .julian, y => 365 * (y - 1) + (y - 1) / 4 + 1721424
  | .gregorian, y => 365 * (y - 1) + (y - 1) / 4 - (y - 1) / 100 + (y - 1) / 400 + 1721426

def jdnOf (ρ : Rule) (y : Int) (m : Month) (d : Int) : Int :=
  yearStart ρ y + daysBefore (leap ρ y) m + d - 1

def ValidYMD (ρ : Rule) (y : Int) (m : Month) (d : Int) : Prop :=
  1 ≤ d ∧ d ≤ monthLen (leap ρ y) m

/-- day `j` is (y, m, d) under rule ρ -/
def IsDate (ρ : Rule) (j y : Int) (m : Month) (d : Int) : Prop :=
  ValidYMD ρ y m d ∧ jdnOf ρ y m d = j

/-- the rule in force on day `j` of a calendar reforming on day `R` -/
def side (R j : Int) : Rule := if j < R then .julian else .gregorian

/-- day `j` is (y, m, d) in the calendar reforming on day `R`:
Julian before `R`, Gregorian from `R` on.  C03 *is* this definition. -/
def IsDateR (R j y : Int) (m : Month) (d : Int) : Prop := IsDate (side R j) j y m d

/-! ### the three theorems that give `yearStart` its meaning -/

theorem yearStart_succ (ρ : Rule) (y : Int) : yearStart ρ (y + 1) = yearStart ρ y + yearLen ρ y := by
  cases ρ <;> simp only [yearStart, yearLen, leap, Bool.and_eq_true, Bool.or_eq_true, beq_iff_eq,
    bne_iff_ne, ne_eq] <;> grind

theorem anchor_julian : jdnOf .julian (-4712) .january 1 = 0 := by decide

theorem anchor_gregorian : jdnOf .gregorian (-4713) .november 24 = 0 := by decide

/-- JDN 2460066 = 2023-05-01 Gregorian (a Monday) — a second, modern anchor -/
theorem anchor_modern : jdnOf .gregorian 2023 .may 1 = 2460066 := by decide

end Spec
end JV
